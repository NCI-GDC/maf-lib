/-
  PyIR interpreter: the meaning of the translated Python fragment.

  **Shape.**  A run does not evaluate the primitive tests on payloads (`i < 1`, `s == "-"`, "does `int(s)` parse")
  itself: it returns a *decision tree* (`Tree`) whose inner nodes are those tests (`Query`) and whose leaves are results.
  The meaning of a run is `Tree.eval H`, which answers every query with the real predicate (`Query.holds`).  This makes
  symbolic execution a matter of kernel evaluation: on an input with a symbolic payload (`.int i`, `.str s`) the run
  reduces, by `rfl`, to an explicit tree `ask (intLt i 1) (done r₁) (done r₂)`; a theorem about *every* `i` is then a
  case split on the queries (`Tree.Forall.ask_of` / `done_of` under `Tree.Forall.eval`, or `Tree.eval_ask_of` for a
  single node), with concrete leaves.  Nothing is assumed about the trees: the
  statements are about `Tree.eval`, i.e. about the ordinary semantics.

  **Totality.**  `fuel` bounds the nesting depth (expression depth, statement nesting, call depth); loops and
  comprehensions recurse on the value iterated, not on fuel.  Running out of fuel is the distinct error
  `.unmodelled "fuel"`, which no theorem's right-hand side is — an equality `run … = model …` also says the fuel sufficed.

  **Python semantics implemented here** (each is a place where a wrong reading would make the tie meaningless):
  * `and` / `or` return an operand, not a boolean; truthiness as CPython's;
  * chained comparisons evaluate the middle operand once and short-circuit;
  * `<` on `int`/`bool` is numeric, on `str` lexicographic by code point, anything else (incl. `None`, `int` vs `str`)
    is `TypeError`; `==` never raises; `True == 1`;
  * `is` on `None` / `True` / `False` / classes is identity; on anything else it is *not modelled* (error);
  * `isinstance(True, int)` holds; a class is an instance test through the translated MRO;
  * attribute lookup: instance dictionary, then a one-parameter (property-like) method through the MRO;
    `enum.value` / `enum.name` through the enum table;
  * `super(C, self).m` resolves to the first definer of `m` after `C` in the MRO of the *instance's* class;
  * `try` handlers run in the environment the `try` was entered with (the translator restricts `try` bodies to a
    single statement, where that is exact); fuel exhaustion and unmodelled constructs are never caught.
-/
import MafModel.PyIR.Syntax
open Py
namespace PyIR

abbrev Env := List (String × Val)

/-- enum vocabularies: class ↦ [(member name, value text)] (from `Generated/Enums`) -/
abbrev Enums := List (String × List (String × String))

structure Host where
  /-- CPython `float(text)`: the `repr` of the result, `none` for ValueError -/
  floatParse : Text → Option Text
  enums : Enums

def outOfFuel : PyErr := .unmodelled "fuel"

/-! ### decision trees -/

/-- the primitive tests on payloads -/
inductive Query where
  | intLt (a b : Int)
  | intEq (a b : Int)
  | textLt (a b : Text)
  | textEq (a b : Text)
  | nameEq (a b : String)
  | textEmpty (s : Text)
  /-- does the host parser `kind` ∈ {int, float, uuid} accept `s` -/
  | parses (kind : String) (s : Text)
  deriving Repr, Inhabited

def Query.holds (H : Host) : Query → Bool
  | .intLt a b => decide (a < b)
  | .intEq a b => a == b
  | .textLt a b => decide (a < b)
  | .textEq a b => a == b
  | .nameEq a b => a == b
  | .textEmpty s => s.isEmpty
  | .parses "int" s => (pyInt s).isSome
  | .parses "float" s => (H.floatParse s).isSome
  | .parses "uuid" s => (pyUuid s).isSome
  | .parses _ _ => false

inductive Tree (α : Type) where
  | done (a : α)
  | ask (q : Query) (t f : Tree α)
  deriving Inhabited

def Tree.eval (H : Host) : Tree α → α
  | .done a => a
  | .ask q t f => if q.holds H then t.eval H else f.eval H

def Tree.bind : Tree α → (α → Tree β) → Tree β
  | .done a, k => k a
  | .ask q t f, k => .ask q (t.bind k) (f.bind k)

theorem Tree.eval_bind (H : Host) (t : Tree α) (k : α → Tree β) : (t.bind k).eval H = (k (t.eval H)).eval H := by
  induction t with
  | done a => rfl
  | ask q t f iht ihf => simp only [Tree.bind, Tree.eval]; split <;> assumption

/-- evaluation through a bind whose shape is known (`ht := rfl`: the unifier stops at the `Tree.bind`, so the prefix `t'`
    is not evaluated; what is known about it is `ha`) -/
theorem Tree.eval_of_bind {H : Host} {t : Tree β} {t' : Tree α} {K : α → Tree β} {a : α}
    (ht : t = t'.bind K) (ha : t'.eval H = a) : t.eval H = (K a).eval H := by
  subst ht; rw [Tree.eval_bind, ha]

/-- evaluation of a tree whose head node is known (by kernel evaluation: `h := rfl`) -/
theorem Tree.eval_ask_of {t T F : Tree α} {q : Query} (H : Host) (h : t = .ask q T F) :
    t.eval H = if q.holds H then T.eval H else F.eval H := by subst h; rfl

theorem Tree.eval_done_of {t : Tree α} {a : α} (H : Host) (h : t = .done a) : t.eval H = a := by subst h; rfl

/-- `P` holds at every leaf, under the answers of the queries on the way to it -/
def Tree.Forall (H : Host) (P : α → Prop) : Tree α → Prop
  | .done a => P a
  | .ask q t f => (q.holds H = true → t.Forall H P) ∧ (q.holds H = false → f.Forall H P)

theorem Tree.Forall.eval {H : Host} {P : α → Prop} : {t : Tree α} → t.Forall H P → P (t.eval H)
  | .done _, h => h
  | .ask q t f, h => by
    unfold Tree.eval
    cases hq : q.holds H
    · simpa using Tree.Forall.eval (h.2 hq)
    · simpa using Tree.Forall.eval (h.1 hq)

/-- `Forall` at a tree whose head node is known (`h := rfl`: the head is computed, the subtrees stay unevaluated) -/
theorem Tree.Forall.ask_of {H : Host} {P : α → Prop} {t T F : Tree α} {q : Query} (h : t = .ask q T F)
    (hT : q.holds H = true → T.Forall H P) (hF : q.holds H = false → F.Forall H P) : t.Forall H P := by
  subst h; exact ⟨hT, hF⟩

theorem Tree.Forall.done_of {H : Host} {P : α → Prop} {t : Tree α} {a : α} (h : t = .done a) (ha : P a) :
    t.Forall H P := by
  subst h; exact ha

/-- one Boolean test -/
def test (q : Query) : Tree Bool := .ask q (.done true) (.done false)

/-- the interpreter's monad: a decision tree over results or Python exceptions -/
def M (α : Type) := Tree (Except PyErr α)

def M.ok (a : α) : M α := Tree.done (.ok a)
def M.err (e : PyErr) : M α := Tree.done (.error e)
def M.bind (x : M α) (k : α → M β) : M β :=
  Tree.bind x (fun r => match r with | .ok a => k a | .error e => Tree.done (.error e))
/-- a pure `Except` computation -/
def M.ofExcept : Except PyErr α → M α := Tree.done
/-- a decision without exception -/
def M.ofTree (t : Tree α) : M α := Tree.bind t (fun a => Tree.done (.ok a))
def M.tryCatch (x : M α) (h : PyErr → M α) : M α :=
  Tree.bind x (fun r => match r with | .ok a => Tree.done (.ok a) | .error e => h e)
def M.eval (H : Host) (x : M α) : Except PyErr α := Tree.eval H x

/-! ### values -/

mutual
/-- Python `==` (never raises; objects compare by identity, which is not modelled: `false`) -/
def Val.pyEq : Val → Val → Tree Bool
  | .none, .none => .done true
  | .bool a, .bool b => .done (a == b)
  | .bool a, .int b => test (.intEq (if a then 1 else 0) b)
  | .int a, .bool b => test (.intEq a (if b then 1 else 0))
  | .int a, .int b => test (.intEq a b)
  | .float a, .float b => test (.textEq a b)
  | .str a, .str b => test (.textEq a b)
  | .enum c m, .enum c' m' => .ask (.nameEq c c') (test (.nameEq m m')) (.done false)
  | .uuid a, .uuid b => .done (a == b)
  | .other a, .other b => .done (a == b)
  | .list a, .list b => Val.pyEqList a b
  | .tuple a, .tuple b => Val.pyEqList a b
  | .cls a, .cls b => .done (a == b)
  | _, _ => .done false
def Val.pyEqList : List Val → List Val → Tree Bool
  | [], [] => .done true
  | a :: as, b :: bs => (Val.pyEq a b).bind (fun r => if r then Val.pyEqList as bs else .done false)
  | _, _ => .done false
end

/-- `bool(v)` -/
def Val.truthy : Val → Tree Bool
  | .none => .done false
  | .bool b => .done b
  | .int i => .ask (.intEq i 0) (.done false) (.done true)
  | .float t => .ask (.textEq t "0.0".toList) (.done false) (.ask (.textEq t "-0.0".toList) (.done false) (.done true))
  | .str s => .ask (.textEmpty s) (.done false) (.done true)
  | .list xs => .done (!xs.isEmpty)
  | .tuple xs => .done (!xs.isEmpty)
  | _ => .done true

def Val.isNone : Val → Bool
  | .none => true
  | _ => false

def Val.asBool? : Val → Option Bool
  | .bool b => Option.some b
  | _ => Option.none

def lookup (env : Env) (x : String) : Option Val :=
  (env.find? (fun p => p.1 == x)).map (·.2)

def setVar (env : Env) (x : String) (v : Val) : Env :=
  if env.any (fun p => p.1 == x) then env.map (fun p => if p.1 == x then (x, v) else p)
  else env ++ [(x, v)]

/-- a dictionary is a list of `(key, value)` 2-tuples tagged as `obj "dict"`; only literals and read access occur -/
def mkDict (kvs : List (Val × Val)) : Val := .obj "dict" (kvs.map (fun kv => ("", .tuple [kv.1, kv.2])))

def dictItems : List (String × Val) → List (Val × Val)
  | [] => []
  | (_, .tuple [k, v]) :: r => (k, v) :: dictItems r
  | _ :: r => dictItems r

/-- the elements `for x in v` ranges over -/
def iterate : Val → Except PyErr (List Val)
  | .list xs => .ok xs
  | .tuple xs => .ok xs
  | .str s => .ok (s.map (fun c => .str [c]))
  | .obj "dict" fs => .ok ((dictItems fs).map (·.1))
  | .obj "set" fs => .ok (fs.map (·.2))
  | _ => .error .type

/-- Python `<` -/
def ltVal : Val → Val → M Bool
  | .int a, .int b => M.ofTree (test (.intLt a b))
  | .bool a, .int b => M.ofTree (test (.intLt (if a then 1 else 0) b))
  | .int a, .bool b => M.ofTree (test (.intLt a (if b then 1 else 0)))
  | .bool a, .bool b => M.ok (!a && b)
  | .str a, .str b => M.ofTree (test (.textLt a b))
  | .float _, _ => M.err (.unmodelled "float order")
  | _, .float _ => M.err (.unmodelled "float order")
  | _, _ => M.err .type

def isInfix (p : Text) : Text → Bool
  | [] => p.isEmpty
  | c :: s => p.isPrefixOf (c :: s) || isInfix p s

/-- `any(x == y for y in ys)` -/
def anyEq (x : Val) : List Val → Tree Bool
  | [] => .done false
  | y :: ys => (Val.pyEq y x).bind (fun r => if r then .done true else anyEq x ys)

def containsVal (x : Val) : Val → M Bool
  | .str s => match x with
    | .str p => M.ok (isInfix p s)
    | _ => M.err .type
  | c => match iterate c with
    | .ok xs => M.ofTree (anyEq x xs)
    | .error e => M.err e

/-- identity against the singletons the fragment tests with `is` -/
def isSame : Val → Val → Except PyErr Bool
  | .none, .none => .ok true
  | .none, _ => .ok false
  | _, .none => .ok false
  | .bool a, .bool b => .ok (a == b)
  | .cls a, .cls b => .ok (a == b)
  | .cls _, _ => .ok false
  | _, .cls _ => .ok false
  | _, _ => .error (.unmodelled "is")

def notM (x : M Bool) : M Bool := x.bind (fun b => M.ok (!b))
def orEq (l : M Bool) (a b : Val) : M Bool := l.bind (fun r => if r then M.ok true else M.ofTree (Val.pyEq a b))

def applyCmp (op : CmpOp) (a b : Val) : M Bool :=
  match op with
  | .lt => ltVal a b
  | .gt => ltVal b a
  -- `a <= b` on the types the fragment compares is `a < b or a == b`
  | .le => orEq (ltVal a b) a b
  | .ge => orEq (ltVal b a) a b
  | .eq => M.ofTree (Val.pyEq a b)
  | .ne => notM (M.ofTree (Val.pyEq a b))
  | .is_ => M.ofExcept (isSame a b)
  | .isNot => M.ofExcept ((isSame a b).map (!·))
  | .in_ => containsVal a b
  | .notIn => notM (containsVal a b)

/-! ### classes -/

def findClass (P : Program) (c : String) : Option ClassDef := P.find? (fun d => d.name == c)

def mroOf (P : Program) (c : String) : List String :=
  match findClass P c with
  | some d => d.mro
  | none => [c]

/-- the first class of `chain` defining `m` -/
def resolveIn (P : Program) (m : String) : List String → Option (String × FnDef)
  | [] => none
  | c :: rest =>
    match (findClass P c).bind (fun d => (d.methods.find? (fun p => p.1 == m)).map (·.2)) with
    | some f => some (c, f)
    | none => resolveIn P m rest

def resolveMethod (P : Program) (c m : String) : Option (String × FnDef) := resolveIn P m (mroOf P c)

/-- the part of the MRO after `c` -/
def mroAfter (P : Program) (inst c : String) : List String :=
  ((mroOf P inst).dropWhile (fun x => x != c)).drop 1

/-- names of built-in types: never the name of an enum or of a translated class -/
def builtinTypes : List String := ["int", "float", "str", "bool", "list", "tuple", "UUID", "dict", "set", "type"]

def builtinNames : List String :=
  ["isinstance", "int", "float", "str", "bool", "len", "set", "list", "tuple", "UUID", "type", "dict"]

/-- `isinstance(v, cls t)` -/
def isInstance1 (P : Program) (v : Val) (t : String) : Tree Bool :=
  match v with
  | .none => .done false
  | .bool _ => .done (t == "bool" || t == "int")
  | .int _ => .done (t == "int")
  | .float _ => .done (t == "float")
  | .str _ => .done (t == "str")
  | .enum c _ => if builtinTypes.contains t then .done false else if t == "Enum" then .done true else test (.nameEq t c)
  | .uuid _ => .done (t == "UUID")
  | .other _ => .done false
  | .list _ => .done (t == "list")
  | .tuple _ => .done (t == "tuple")
  | .obj c _ => .done (!builtinTypes.contains t && (mroOf P c).contains t)
  | .cls _ => .done (t == "type")

def anyInstance (P : Program) (v : Val) : List Val → Tree Bool
  | [] => .done false
  | .cls n :: ts => (isInstance1 P v n).bind (fun r => if r then .done true else anyInstance P v ts)
  | _ :: ts => anyInstance P v ts

def isInstance (P : Program) (v : Val) : Val → M Bool
  | .cls t => M.ofTree (isInstance1 P v t)
  | .tuple ts => M.ofTree (anyInstance P v ts)
  | _ => M.err .type

def enumValue (H : Host) (c m : String) : Option Text :=
  ((H.enums.find? (fun p => p.1 == c)).bind (fun p => p.2.find? (fun q => q.1 == m))).map (·.2.toList)

/-- `EnumCls(text)`: by value -/
def enumByValue (H : Host) (c : String) (t : Text) : Option String :=
  ((H.enums.find? (fun p => p.1 == c)).bind (fun p => p.2.find? (fun q => q.2.toList == t))).map (·.1)

/-- `EnumCls[text]`: by member name -/
def enumByName (H : Host) (c : String) (t : Text) : Option String :=
  ((H.enums.find? (fun p => p.1 == c)).bind (fun p => p.2.find? (fun q => q.1.toList == t))).map (·.1)

def isEnumClass (H : Host) (c : String) : Bool := H.enums.any (fun p => p.1 == c)

/-- Python `str(v)` where maf-lib relies on it -/
def strOf : Val → Except PyErr Text
  | .none => .ok "None".toList
  | .bool true => .ok "True".toList
  | .bool false => .ok "False".toList
  | .int i => .ok (intStr i)
  | .float t => .ok t
  | .str s => .ok s
  | .uuid n => .ok (uuidStr n)
  | _ => .error (.unmodelled "str")

def excKind : String → PyErr
  | "ValueError" => .value
  | "KeyError" => .key
  | "TypeError" => .type
  | "IndexError" => .index
  | "AttributeError" => .attribute
  | "AssertionError" => .assertion
  | "NotImplementedError" => .notImplemented
  | "StopIteration" => .stopIteration
  | k => .unmodelled ("raise " ++ k)

def handles (k : String) (e : PyErr) : Bool :=
  match e with
  | .unmodelled _ => false            -- fuel / unmodelled constructs are never caught
  | _ => k == "Exception" || excKind k == e

/-! ### builtins -/

def callBuiltin (P : Program) (H : Host) (f : String) (args : List Val) : M Val :=
  match f, args with
  | "isinstance", [v, t] => (isInstance P v t).bind (fun b => M.ok (.bool b))
  | "int", [.str s] => Tree.ask (.parses "int" s) (M.ok (.int ((pyInt s).getD 0))) (M.err .value)
  | "int", [.int i] => M.ok (.int i)
  | "int", [.bool b] => M.ok (.int (if b then 1 else 0))
  | "int", [.none] => M.err .type
  | "float", [.str s] => Tree.ask (.parses "float" s) (M.ok (.float ((H.floatParse s).getD []))) (M.err .value)
  | "float", [.none] => M.err .type
  | "str", [v] => M.ofExcept ((strOf v).map Val.str)
  | "bool", [v] => (M.ofTree v.truthy).bind (fun b => M.ok (.bool b))
  | "len", [v] => M.ofExcept ((iterate v).map (fun xs => .int xs.length))
  | "set", [v] => M.ofExcept ((iterate v).map (fun xs => .obj "set" (xs.map (fun x => ("", x)))))
  | "list", [v] => M.ofExcept ((iterate v).map Val.list)
  | "list", [] => M.ok (.list [])
  | "tuple", [v] => M.ofExcept ((iterate v).map Val.tuple)
  | "UUID", [.str s] => Tree.ask (.parses "uuid" s) (M.ok (.uuid ((pyUuid s).getD 0))) (M.err .value)
  | "type", [.obj c _] => M.ok (.cls c)
  | "dict", kvs => M.ok (mkDict (kvs.filterMap (fun kv => match kv with | .tuple [k, v] => some (k, v) | _ => none)))
  | f, _ => M.err (.unmodelled ("builtin " ++ f))

/-- methods of built-in values -/
def callValMethod (recv : Val) (m : String) (args : List Val) : Except PyErr Val :=
  match recv, m, args with
  | .str s, "upper", [] => .ok (.str (pyUpper s))
  | .str s, "capitalize", [] => .ok (.str (pyCapitalize s))
  | .str s, "split", [.str [c]] => .ok (.list ((splitOn c s).map Val.str))
  | .str sep, "join", [v] => do
      let xs ← iterate v
      let ts ← xs.mapM (fun x => match x with | .str t => .ok t | _ => (.error .type : Except PyErr Text))
      match sep with
      | [c] => .ok (.str (joinWith c ts))
      | _ => .error (.unmodelled "join separator")
  | .obj "dict" fs, "keys", [] => .ok (.list ((dictItems fs).map (·.1)))
  | .obj "dict" fs, "values", [] => .ok (.list ((dictItems fs).map (·.2)))
  | .obj "dict" fs, "items", [] => .ok (.list ((dictItems fs).map (fun kv => .tuple [kv.1, kv.2])))
  | _, m, _ => .error (.unmodelled ("method " ++ m))

/-- `d[k]` -/
def dictGet (k : Val) : List (Val × Val) → M Val
  | [] => M.err .key
  | (k', v) :: rest => (M.ofTree (Val.pyEq k' k)).bind (fun r => if r then M.ok v else dictGet k rest)

/-! ### loops over values (structural on the list, not on fuel) -/

def forLoop (step : Env → Nat → Val → M (Env × Option Val)) : Env → Nat → List Val → M (Env × Option Val)
  | env, _, [] => M.ok (env, none)
  | env, i, v :: vs =>
    (step env i v).bind (fun r => match r with
      | (env', none) => forLoop step env' (i + 1) vs
      | r => M.ok r)

/-- `any(f x for x in xs)` with Python's short-circuit -/
def anyM (f : Val → M Bool) : List Val → M Bool
  | [] => M.ok false
  | v :: vs => (f v).bind (fun r => if r then M.ok true else anyM f vs)

def allM (f : Val → M Bool) : List Val → M Bool
  | [] => M.ok true
  | v :: vs => (f v).bind (fun r => if r then allM f vs else M.ok false)

def mapValsM (f : Val → M Val) : List Val → M (List Val)
  | [] => M.ok []
  | v :: vs => (f v).bind (fun w => (mapValsM f vs).bind (fun ws => M.ok (w :: ws)))

def mapExprsM (ev : Expr → M Val) : List Expr → M (List Val)
  | [] => M.ok []
  | e :: es => (ev e).bind (fun w => (mapExprsM ev es).bind (fun ws => M.ok (w :: ws)))

/-- `a and b and …`: the first falsy operand, else the last -/
def andLoop (ev : Expr → M Val) : List Expr → M Val
  | [] => M.ok (.bool true)
  | [e] => ev e
  | e :: es => (ev e).bind (fun v => (M.ofTree v.truthy).bind (fun t => if t then andLoop ev es else M.ok v))

def orLoop (ev : Expr → M Val) : List Expr → M Val
  | [] => M.ok (.bool false)
  | [e] => ev e
  | e :: es => (ev e).bind (fun v => (M.ofTree v.truthy).bind (fun t => if t then M.ok v else orLoop ev es))

/-- `l op₁ e₁ op₂ e₂ …` -/
def cmpChain (ev : Expr → M Val) : Val → List (CmpOp × Expr) → M Val
  | _, [] => M.ok (.bool true)
  | l, (op, e) :: rest =>
    (ev e).bind (fun r => (applyCmp op l r).bind (fun b => if b then cmpChain ev r rest else M.ok (.bool false)))

def bindParams : List String → List Val → Option Env
  | [], [] => some []
  | p :: ps, v :: vs => (bindParams ps vs).map (fun e => (p, v) :: e)
  -- a missing trailing argument is a default of `None` (the only default the fragment uses)
  | p :: ps, [] => (bindParams ps []).map (fun e => (p, .none) :: e)
  | [], _ :: _ => none

/-- field write `x.a = v` on an instance held in a variable -/
def setField (o : Val) (a : String) (v : Val) : Option Val :=
  match o with
  | .obj c fs => some (.obj c (setVar fs a v))
  | _ => none

def subVals : Val → Val → Except PyErr Val
  | .int x, .int y => .ok (.int (x - y))
  | .bool x, .bool y => .ok (.int ((if x then 1 else 0) - (if y then 1 else 0)))
  | .int x, .bool y => .ok (.int (x - (if y then 1 else 0)))
  | .bool x, .int y => .ok (.int ((if x then 1 else 0) - y))
  | _, _ => .error .type

def addVals : Val → Val → Except PyErr Val
  | .int x, .int y => .ok (.int (x + y))
  | .str x, .str y => .ok (.str (x ++ y))
  | .list x, .list y => .ok (.list (x ++ y))
  | _, _ => .error .type

def indexVal (H : Host) : Val → Val → M Val
  | .list xs, .int j => if 0 ≤ j then (match xs[j.toNat]? with | some x => M.ok x | none => M.err .index) else M.err (.unmodelled "negative index")
  | .tuple xs, .int j => if 0 ≤ j then (match xs[j.toNat]? with | some x => M.ok x | none => M.err .index) else M.err (.unmodelled "negative index")
  | .obj "dict" fs, k => dictGet k (dictItems fs)
  | .cls c, .str t =>
    -- `EnumCls[text]`
    if isEnumClass H c then (match enumByName H c t with
      | some m => M.ok (.enum c m)
      | none => M.err .key)
    else M.err .type
  | _, _ => M.err .type

/-! ### the interpreter -/

mutual

/-- call `f` with the receiver / class object already first in `args`;
    result: returned value (`None` when the body falls off the end) and the callee's final environment -/
def callFn (P : Program) (H : Host) : Nat → FnDef → List Val → M (Val × Env)
  | 0, _, _ => M.err outOfFuel
  | n + 1, f, args =>
    match bindParams f.params args with
    | none => M.err .type
    | some env =>
      (execStmts P H n env f.body).bind (fun r => match r with
        | (env', some v) => M.ok (v, env')
        | (env', none) => M.ok (.none, env'))
termination_by structural n => n

/-- `recv.m(args)` with `recv` already evaluated: value and the receiver after the call -/
def callMethod (P : Program) (H : Host) : Nat → Val → String → List Val → M (Val × Option Val)
  | 0, _, _, _ => M.err outOfFuel
  | n + 1, recv, m, args =>
    match recv with
    | .obj "dict" _ => (M.ofExcept (callValMethod recv m args)).bind (fun v => M.ok (v, none))
    | .obj c _ =>
      match resolveMethod P c m with
      | none => M.err .attribute
      | some (_, f) =>
        let first := match f.kind with
          | .instance => [recv]
          | .classmethod => [.cls c]
          | .staticmethod => []
        (callFn P H n f (first ++ args)).bind (fun r =>
          M.ok (r.1, if f.kind == .instance then lookup r.2 (f.params.headD "self") else none))
    | .cls c =>
      match resolveMethod P c m with
      | none => M.err .attribute
      | some (_, f) =>
        let first := match f.kind with
          | .instance => []            -- unbound call `C.m(obj, …)`: the caller passes the instance
          | .classmethod => [.cls c]
          | .staticmethod => []
        (callFn P H n f (first ++ args)).bind (fun r => M.ok (r.1, none))
    | v => (M.ofExcept (callValMethod v m args)).bind (fun r => M.ok (r, none))
termination_by structural n => n

def evalExpr (P : Program) (H : Host) : Nat → Env → Expr → M Val
  | 0, _, _ => M.err outOfFuel
  | n + 1, env, e =>
    match e with
    | .const v => M.ok v
    | .message => M.ok (.str "<message>".toList)
    | .name x => match lookup env x with
      | some v => M.ok v
      | none => M.ok (.cls x)
    | .attr e a =>
      (evalExpr P H n env e).bind (fun v =>
        match v with
        | .obj c fs =>
          match lookup fs a with
          | some w => M.ok w
          | none =>
            -- a property (translated as a one-parameter instance method)
            match resolveMethod P c a with
            | some (_, f) => if f.params.length == 1 then (callFn P H n f [v]).bind (fun r => M.ok r.1) else M.err .attribute
            | none => M.err .attribute
        | .enum c m => if a == "value" then (match enumValue H c m with
                                              | some t => M.ok (.str t)
                                              | none => M.err .attribute)
                       else if a == "name" then M.ok (.str m.toList)
                       else M.err .attribute
        | .cls c =>
          if a == "__name__" then M.ok (.str c.toList)
          -- `EnumCls.Member`
          else match enumByName H c a.toList with
            | some m => M.ok (.enum c m)
            | none => M.err .attribute
        | _ => M.err .attribute)
    | .call f args =>
      (mapExprsM (evalExpr P H n env) args).bind (fun vs =>
        -- a name bound in the environment to a class (e.g. `enum_cls(value)`, `column_cls("", v)`)
        let target := match lookup env f with
          | some (.cls c) => c
          | _ => f
        if builtinNames.contains target then callBuiltin P H target vs
        else match findClass P target with
          | some _ =>
            -- instantiation: `__init__` through the MRO on a fresh instance
            match resolveMethod P target "__init__" with
            | some (_, f) =>
              (callFn P H n f (Val.obj target [] :: vs)).bind (fun r =>
                match lookup r.2 (f.params.headD "self") with
                | some o => M.ok o
                | none => M.err .attribute)
            | none => M.ok (.obj target [])
          | none =>
            if isEnumClass H target then
              match vs with
              | [.str t] => match enumByValue H target t with
                | some m => M.ok (.enum target m)
                | none => M.err .value
              | _ => M.err .value
            else M.err (.unmodelled ("call " ++ target)))
    | .method recv m args =>
      (evalExpr P H n env recv).bind (fun r =>
        (mapExprsM (evalExpr P H n env) args).bind (fun vs =>
          (callMethod P H n r m vs).bind (fun x => M.ok x.1)))
    | .superCall c m args =>
      (mapExprsM (evalExpr P H n env) args).bind (fun vs =>
        -- the instance (or class) the enclosing method was called on is its first parameter
        match env.head? with
        | some (_, .obj ic fs) =>
          match resolveIn P m (mroAfter P ic c) with
          | some (_, f) => (callFn P H n f (Val.obj ic fs :: vs)).bind (fun r => M.ok r.1)
          | none => M.err .attribute
        | some (_, .cls ic) =>
          match resolveIn P m (mroAfter P ic c) with
          | some (_, f) => (callFn P H n f ((if f.kind == .staticmethod then [] else [Val.cls ic]) ++ vs)).bind (fun r => M.ok r.1)
          | none => M.err .attribute
        | _ => M.err .type)
    | .cmp l rest => (evalExpr P H n env l).bind (fun lv => cmpChain (evalExpr P H n env) lv rest)
    | .and es => andLoop (evalExpr P H n env) es
    | .or es => orLoop (evalExpr P H n env) es
    | .not e => (evalExpr P H n env e).bind (fun v => (M.ofTree v.truthy).bind (fun t => M.ok (.bool (!t))))
    | .sub l r => (evalExpr P H n env l).bind (fun a => (evalExpr P H n env r).bind (fun b => M.ofExcept (subVals a b)))
    | .add l r => (evalExpr P H n env l).bind (fun a => (evalExpr P H n env r).bind (fun b => M.ofExcept (addVals a b)))
    | .ifExp c a b =>
      (evalExpr P H n env c).bind (fun cv => (M.ofTree cv.truthy).bind (fun t =>
        if t then evalExpr P H n env a else evalExpr P H n env b))
    | .tuple es => (mapExprsM (evalExpr P H n env) es).bind (fun vs => M.ok (.tuple vs))
    | .list es => (mapExprsM (evalExpr P H n env) es).bind (fun vs => M.ok (.list vs))
    | .subscript e i => (evalExpr P H n env e).bind (fun v => (evalExpr P H n env i).bind (fun k => indexVal H v k))
    | .quant isAll x it cond =>
      (evalExpr P H n env it).bind (fun iv => (M.ofExcept (iterate iv)).bind (fun xs =>
        let f := fun v => (evalExpr P H n (setVar env x v) cond).bind (fun c => M.ofTree c.truthy)
        (if isAll then allM f xs else anyM f xs).bind (fun b => M.ok (.bool b))))
    | .listComp elt x it =>
      (evalExpr P H n env it).bind (fun iv => (M.ofExcept (iterate iv)).bind (fun xs =>
        (mapValsM (fun v => evalExpr P H n (setVar env x v) elt) xs).bind (fun vs => M.ok (.list vs))))
termination_by structural n => n

/-- run statements; `some v` = a `return v` was executed -/
def execStmts (P : Program) (H : Host) : Nat → Env → List Stmt → M (Env × Option Val)
  | 0, _, _ => M.err outOfFuel
  | _ + 1, env, [] => M.ok (env, none)
  | n + 1, env, s :: rest =>
    (execStmt P H n env s).bind (fun r => match r with
      | (env', none) => execStmts P H n env' rest
      | r => M.ok r)
termination_by structural n => n

def execStmt (P : Program) (H : Host) : Nat → Env → Stmt → M (Env × Option Val)
  | 0, _, _ => M.err outOfFuel
  | n + 1, env, s =>
    match s with
    | .pass => M.ok (env, none)
    | .assign x e =>
      match e with
      | .method (.name r) m args =>
        -- a call on a named receiver: the receiver's mutations are written back
        (evalExpr P H n env (.name r)).bind (fun rv =>
          (mapExprsM (evalExpr P H n env) args).bind (fun vs =>
            (callMethod P H n rv m vs).bind (fun res =>
              let env1 := match res.2 with | some o => setVar env r o | none => env
              M.ok (setVar env1 x res.1, none))))
      | _ => (evalExpr P H n env e).bind (fun v => M.ok (setVar env x v, none))
    | .assignAttr o a e =>
      (evalExpr P H n env e).bind (fun v =>
        match (lookup env o).bind (fun ov => setField ov a v) with
        | some ov' => M.ok (setVar env o ov', none)
        | none => M.err .attribute)
    | .expr e =>
      match e with
      | .method (.name r) m args =>
        (evalExpr P H n env (.name r)).bind (fun rv =>
          (mapExprsM (evalExpr P H n env) args).bind (fun vs =>
            match rv, m, vs with
            | .list xs, "append", [v] => M.ok (setVar env r (.list (xs ++ [v])), none)
            | _, _, _ =>
              (callMethod P H n rv m vs).bind (fun res =>
                M.ok (match res.2 with | some o => setVar env r o | none => env, none))))
      | _ => (evalExpr P H n env e).bind (fun _ => M.ok (env, none))
    | .ret e => (evalExpr P H n env e).bind (fun v => M.ok (env, some v))
    | .raise k => M.err (excKind k)
    | .assert_ e => (evalExpr P H n env e).bind (fun v => (M.ofTree v.truthy).bind (fun t =>
        if t then M.ok (env, none) else M.err .assertion))
    | .ifS c t e => (evalExpr P H n env c).bind (fun cv => (M.ofTree cv.truthy).bind (fun b =>
        if b then execStmts P H n env t else execStmts P H n env e))
    | .forS idx x it body =>
      (evalExpr P H n env it).bind (fun iv => (M.ofExcept (iterate iv)).bind (fun xs =>
        forLoop (fun env i v =>
          let env1 := match idx with | some ix => setVar env ix (.int i) | none => env
          execStmts P H n (setVar env1 x v) body) env 0 xs))
    | .tryS body hs =>
      M.tryCatch (execStmts P H n env body) (fun e =>
        match hs.find? (fun h => handles h.1 e) with
        | some h => execStmts P H n env h.2
        | none => M.err e)
termination_by structural n => n

end

/-- what `callFn` does with the outcome of the body: the returned value (`None` when the body falls off the end) and the
    callee's final environment -/
def callFn.unpack : Except PyErr (Env × Option Val) → M (Val × Env)
  | .ok (env', some v) => M.ok (v, env')
  | .ok (env', none) => M.ok (.none, env')
  | .error e => Tree.done (.error e)

/-- a call with fuel left: the body run in the environment that binds the parameters, then the unpacking of the result -/
theorem callFn_succ (P : Program) (H : Host) (n : Nat) (f : FnDef) (args : List Val) (env : Env)
    (h : bindParams f.params args = some env) :
    callFn P H (n + 1) f args = Tree.bind (execStmts P H n env f.body) callFn.unpack := by
  rw [callFn, h]
  simp only [M.bind]
  congr 1
  funext r
  rcases r with e | ⟨env', _ | v⟩ <;> rfl

/-- a statement sequence with fuel left: the first statement, then the rest unless it returned -/
theorem execStmts_cons (P : Program) (H : Host) (n : Nat) (env : Env) (s : Stmt) (rest : List Stmt) :
    execStmts P H (n + 1) env (s :: rest) = Tree.bind (execStmt P H n env s) (fun r => match r with
      | .ok (env', none) => execStmts P H n env' rest
      | .ok r => M.ok r
      | .error e => Tree.done (.error e)) := by
  rw [execStmts]
  simp only [M.bind]
  congr 1
  funext r
  rcases r with e | ⟨env', _ | v⟩ <;> rfl

/-- the fuel every theorem and the driver use: far above the nesting depth of any translated body -/
def FUEL : Nat := 64

/-- the decision tree of calling method `m` of class `c` on explicit arguments (receiver / class object first where
    the kind needs one) -/
def runTree (P : Program) (H : Host) (c m : String) (args : List Val) : M (Val × Env) :=
  match (findClass P c).bind (fun d => (d.methods.find? (fun p => p.1 == m)).map (·.2)) with
  | some f => callFn P H FUEL f args
  | none => M.err .attribute

/-- `runTree` once the method is found (`h := rfl` evaluates the lookup by name) -/
theorem runTree_eq_callFn {P : Program} {H : Host} {c m : String} {args : List Val} {f : FnDef}
    (h : (findClass P c).bind (fun d => (d.methods.find? (fun p => p.1 == m)).map (·.2)) = some f) :
    runTree P H c m args = callFn P H FUEL f args := by
  rw [runTree, h]

/-- the meaning of that call -/
def run (P : Program) (H : Host) (c m : String) (args : List Val) : Except PyErr (Val × Env) :=
  Tree.eval H (runTree P H c m args)

/-- the meaning of calling method `m` of class `c`: the method found by name (`hf := rfl`), its parameters bound
    (`he := rfl`), its body run (`ha`), the result unpacked -/
theorem run_of_body {P : Program} {H : Host} {c m : String} {args : List Val} {f : FnDef} {env : Env}
    {a : Except PyErr (Env × Option Val)}
    (hf : (findClass P c).bind (fun d => (d.methods.find? (fun p => p.1 == m)).map (·.2)) = some f)
    (he : bindParams f.params args = some env) (ha : Tree.eval H (execStmts P H 63 env f.body) = a) :
    run P H c m args = Tree.eval H (callFn.unpack a) :=
  Tree.eval_of_bind ((runTree_eq_callFn hf).trans (callFn_succ P H 63 f args env he)) ha

end PyIR
