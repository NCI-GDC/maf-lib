/-
  Pure facts about the k-way merge of the spill-file model (`Model/Resources.lean`, `maflib/sorter.py`):
  `minCursor` picks a cursor with the smallest look-ahead, and emitting that
  look-ahead keeps the merge invariant; a sorted permutation is unique.
-/
import MafModel.Model.Resources
open Py Model

namespace MergeLemmas

/-- the keys a cursor will still deliver: its look-ahead, then the rest of its file -/
def pending (c : Cursor) : List Nat :=
  match c.peek with
  | some k => k :: c.rest
  | none => []

/-- invariant of the merge loop: `out` has been emitted, the cursors hold the rest -/
structure MInv (all : List Nat) (cs : List Cursor) (out : List Nat) : Prop where
  perm : (out ++ cs.flatMap pending).Perm all
  outSorted : out.Pairwise (· ≤ ·)
  le : ∀ x ∈ out, ∀ y ∈ cs.flatMap pending, x ≤ y
  sorted : ∀ c ∈ cs, (pending c).Pairwise (· ≤ ·)

/-- the candidate list `minCursor` builds: (look-ahead, index) of every cursor that has one -/
def idxOf (cs : List Cursor) : List (Nat × Nat) :=
  cs.zipIdx.filterMap (fun (p : Cursor × Nat) => p.1.peek.map (fun k => (k, p.2)))

theorem mem_idxOf {cs : List Cursor} {k j : Nat} :
    (k, j) ∈ idxOf cs ↔ ∃ c, cs[j]? = some c ∧ c.peek = some k := by
  unfold idxOf
  rw [List.mem_filterMap]
  constructor
  · rintro ⟨⟨c, j'⟩, hmem, hp⟩
    rw [List.mk_mem_zipIdx_iff_getElem?] at hmem
    cases hpk : c.peek with
    | none => simp [hpk] at hp
    | some k' =>
      simp only [hpk, Option.map_some, Option.some.injEq, Prod.mk.injEq] at hp
      obtain ⟨rfl, rfl⟩ := hp
      exact ⟨c, hmem, hpk⟩
  · rintro ⟨c, hc, hk⟩
    refine ⟨(c, j), ?_, ?_⟩
    · rw [List.mk_mem_zipIdx_iff_getElem?]; exact hc
    · simp [hk]

theorem minCursor_eq (cs : List Cursor) :
    minCursor cs = match idxOf cs with
      | [] => none
      | x :: xs => some (xs.foldl (fun (best : Nat × Nat) y => if y.1 < best.1 then y else best) x).2 := by
  rfl

theorem foldl_min_spec (xs : List (Nat × Nat)) (x : Nat × Nat) :
    (xs.foldl (fun (best : Nat × Nat) y => if y.1 < best.1 then y else best) x) ∈ x :: xs ∧
    ∀ y ∈ x :: xs,
      (xs.foldl (fun (best : Nat × Nat) y => if y.1 < best.1 then y else best) x).1 ≤ y.1 := by
  induction xs generalizing x with
  | nil => simp
  | cons z zs ih =>
    simp only [List.foldl_cons]
    obtain ⟨hm, hle⟩ := ih (if z.1 < x.1 then z else x)
    constructor
    · rcases List.mem_cons.1 hm with h | h
      · rw [h]; split
        · exact List.mem_cons_of_mem _ List.mem_cons_self
        · exact List.mem_cons_self
      · exact List.mem_cons_of_mem _ (List.mem_cons_of_mem _ h)
    · intro y hy
      have h0 := hle _ List.mem_cons_self
      have h1 : (if z.1 < x.1 then z else x).1 ≤ x.1 ∧ (if z.1 < x.1 then z else x).1 ≤ z.1 := by
        split <;> omega
      rcases List.mem_cons.1 hy with rfl | hy
      · exact Nat.le_trans h0 h1.1
      · rcases List.mem_cons.1 hy with rfl | hy
        · exact Nat.le_trans h0 h1.2
        · exact hle _ (List.mem_cons_of_mem _ hy)

theorem pending_of_peek_none {c : Cursor} (h : c.peek = none) : pending c = [] := by
  simp [pending, h]

theorem pending_of_peek_some {c : Cursor} {k : Nat} (h : c.peek = some k) :
    pending c = k :: c.rest := by
  simp [pending, h]

theorem split_at {α} {cs : List α} {i : Nat} {c : α} (hc : cs[i]? = some c) :
    ∃ l₁ l₂, cs = l₁ ++ c :: l₂ ∧ l₁.length = i := by
  obtain ⟨hlt, rfl⟩ := List.getElem?_eq_some_iff.1 hc
  refine ⟨cs.take i, cs.drop (i + 1), ?_, ?_⟩
  · simp
  · simp; omega

theorem pairwise_mergeSort_le (l : List Nat) :
    (l.mergeSort (fun a b => a ≤ b)).Pairwise (· ≤ ·) := by
  have h := List.pairwise_mergeSort (le := fun (a b : Nat) => decide (a ≤ b))
    (by intro a b c; simp; omega) (by intro a b; simp; omega) l
  exact h.imp (by intro a b; simp)

theorem eq_mergeSort_of_sorted_perm {l all : List Nat} (h1 : l.Pairwise (· ≤ ·))
    (hp : l.Perm all) : l = all.mergeSort (fun a b => a ≤ b) :=
  List.Perm.eq_of_pairwise (le := (· ≤ ·)) (fun _ _ _ _ h h' => Nat.le_antisymm h h') h1
    (pairwise_mergeSort_le all) (hp.trans (List.mergeSort_perm all _).symm)

theorem minCursor_none {cs : List Cursor} (h : minCursor cs = none) : cs.flatMap pending = [] := by
  rw [minCursor_eq] at h
  rw [List.flatMap_eq_nil_iff]
  intro c hcm
  cases hp : c.peek with
  | none => exact pending_of_peek_none hp
  | some k =>
    obtain ⟨j, hj⟩ := List.mem_iff_getElem?.1 hcm
    have := mem_idxOf.2 ⟨c, hj, hp⟩
    cases hi : idxOf cs with
    | nil => rw [hi] at this; cases this
    | cons x xs => rw [hi] at h; cases h

theorem minCursor_some {cs : List Cursor} {i : Nat} (h : minCursor cs = some i) :
    ∃ c k, cs[i]? = some c ∧ c.peek = some k ∧ ∀ c' ∈ cs, ∀ k', c'.peek = some k' → k ≤ k' := by
  rw [minCursor_eq] at h
  cases hi : idxOf cs with
  | nil => rw [hi] at h; cases h
  | cons x xs =>
    rw [hi] at h
    obtain ⟨hm, hle⟩ := foldl_min_spec xs x
    rw [← hi] at hm hle
    obtain rfl := Option.some.inj h
    obtain ⟨c, hc, hk⟩ := mem_idxOf.1 hm
    exact ⟨c, _, hc, hk, fun c' hc' k' hk' =>
      let ⟨j', hj'⟩ := List.mem_iff_getElem?.1 hc'
      hle (k', j') (mem_idxOf.2 ⟨c', hj', hk'⟩)⟩

/-- one step of the merge: the chosen cursor `c` is replaced by `c'`, which delivers the same keys
    minus its look-ahead `k`; the pending keys get fewer -/
theorem MInv.step {all : List Nat} {cs : List Cursor} {out : List Nat} {i : Nat} {c c' : Cursor}
    {k : Nat} (h : MInv all cs out) (hm : minCursor cs = some i)
    (hc : cs[i]? = some c) (hp : pending c = k :: pending c') :
    MInv all (cs.set i c') (out ++ [k]) ∧
    ((cs.set i c').flatMap pending).length + 1 = (cs.flatMap pending).length := by
  obtain ⟨c0, k0, hc0, hk0, hmin⟩ := minCursor_some hm
  obtain rfl : c0 = c := Option.some.inj (hc0.symm.trans hc)
  obtain rfl : k0 = k := by
    rw [pending_of_peek_some hk0] at hp
    exact (List.cons.inj hp).1
  -- `k0` is below every pending key: below every look-ahead, and each cursor is sorted
  have hkmin : ∀ y ∈ cs.flatMap pending, k0 ≤ y := by
    intro y hy
    obtain ⟨d, hd, hyd⟩ := List.mem_flatMap.1 hy
    cases hpd : d.peek with
    | none => rw [pending_of_peek_none hpd] at hyd; cases hyd
    | some kd =>
      have hs := h.sorted d hd
      rw [pending_of_peek_some hpd] at hs hyd
      rcases List.mem_cons.1 hyd with rfl | hyr
      · exact hmin d hd _ hpd
      · exact Nat.le_trans (hmin d hd kd hpd) (List.rel_of_pairwise_cons hs hyr)
  obtain ⟨l₁, l₂, rfl, rfl⟩ := split_at hc
  have hset : (l₁ ++ c0 :: l₂).set l₁.length c' = l₁ ++ c' :: l₂ := by simp
  rw [hset]
  have hperm : ((l₁ ++ c0 :: l₂).flatMap pending).Perm (k0 :: (l₁ ++ c' :: l₂).flatMap pending) := by
    simp only [List.flatMap_append, List.flatMap_cons, hp, List.cons_append]
    exact List.perm_middle
  have hsub : ∀ y ∈ (l₁ ++ c' :: l₂).flatMap pending, y ∈ (l₁ ++ c0 :: l₂).flatMap pending :=
    fun y hy => hperm.mem_iff.2 (List.mem_cons_of_mem _ hy)
  refine ⟨⟨?_, ?_, ?_, ?_⟩, hperm.length_eq.symm⟩
  · rw [List.append_assoc]
    exact (hperm.symm.append_left out).trans h.perm
  · refine List.pairwise_append.2 ⟨h.outSorted, List.pairwise_singleton _ _, fun a ha b hb => ?_⟩
    rw [List.mem_singleton.1 hb]
    exact h.le a ha _ (hperm.mem_iff.2 List.mem_cons_self)
  · intro x hx y hy
    rcases List.mem_append.1 hx with hx | hx
    · exact h.le x hx y (hsub y hy)
    · rw [List.mem_singleton.1 hx]
      exact hkmin y (hsub y hy)
  · intro d hd
    rcases List.mem_append.1 hd with hd | hd
    · exact h.sorted d (List.mem_append_left _ hd)
    · rcases List.mem_cons.1 hd with rfl | hd
      · have hs := h.sorted c0 (List.mem_append_right _ List.mem_cons_self)
        rw [hp] at hs
        exact hs.tail
      · exact h.sorted d (List.mem_append_right _ (List.mem_cons_of_mem _ hd))

theorem MInv.final {all : List Nat} {cs : List Cursor} {out : List Nat} (h : MInv all cs out)
    (he : cs.flatMap pending = []) : out = all.mergeSort (fun a b => a ≤ b) := by
  have hp := h.perm
  rw [he, List.append_nil] at hp
  exact eq_mergeSort_of_sorted_perm h.outSorted hp

/-- cursors freshly opened on sorted files -/
theorem MInv.init {ls : List (List Nat)} {cs : List Cursor} (hs : ∀ l ∈ ls, l.Pairwise (· ≤ ·))
    (hc : cs.map pending = ls) : MInv ls.flatten cs [] := by
  subst hc
  refine ⟨?_, List.Pairwise.nil, ?_, ?_⟩
  · rw [List.nil_append, List.flatMap_def]
  · intro x hx; simp at hx
  · intro c hcm
    exact hs _ (List.mem_map_of_mem hcm)

theorem mergeSort_perm_eq {l l' : List Nat} (h : l.Perm l') :
    l.mergeSort (fun a b => a ≤ b) = l'.mergeSort (fun a b => a ≤ b) :=
  eq_mergeSort_of_sorted_perm (pairwise_mergeSort_le l) ((List.mergeSort_perm l _).trans h)

/-- the keys of the harness, `n, n-1, …, 1`, sorted -/
theorem sorted_keys (n : Nat) :
    ((List.range n).map (fun k => n - k)).mergeSort (fun a b => a ≤ b) = (List.range n).map (· + 1) := by
  symm
  apply eq_mergeSort_of_sorted_perm
  · rw [List.pairwise_map]
    exact List.pairwise_lt_range.imp (by intro a b h; omega)
  · have hrev : (List.range n).map (fun k => n - k) = ((List.range n).map (· + 1)).reverse := by
      apply List.ext_getElem
      · simp
      · intro i h1 h2
        simp at h1 h2 ⊢
        omega
    rw [hrev]
    exact (List.reverse_perm _).symm

end MergeLemmas
