/-
  `LocatableByAlleleOverlapIterator` of `maflib/overlap_iter.py` (`Model/Overlap.lean`, allele
  part): the allele test `shouldAdd` and the partition `partitionFirst` of the first input of a
  positional group.  `partitionFirst` is a left fold of `place`, one step; its invariants are
  proved for `place` and carried over by `partitionFirst_induction`, for any accumulator.
-/
import MafModel.Model.Overlap

open Py

namespace Model

variable {κ : Type}

/-! ### the allele relation and `shouldAdd` -/

theorem AlleleRel.test_equality (base other : List Text) :
    AlleleRel.test .equality base other = true ↔ base = other := by
  simp [AlleleRel.test]

theorem AlleleRel.test_intersects (base other : List Text) :
    AlleleRel.test .intersects base other = true ↔
      (∃ a, a ∈ base ∧ a ∈ other) ∨ base = other := by
  simp [AlleleRel.test, and_comm]

theorem AlleleRel.test_subset (base other : List Text) :
    AlleleRel.test .subset base other = true ↔ ∀ a ∈ other, a ∈ base := by
  simp [AlleleRel.test]

variable (al : AlOps κ) (rel : AlleleRel)

theorem shouldAdd_iff (items : List κ) (other : κ) :
    shouldAdd al rel items other = true ↔
      ∃ it ∈ items, al.ref it = al.ref other ∧ rel.test (al.alts it) (al.alts other) = true := by
  simp [shouldAdd]

theorem shouldAdd_nil (other : κ) : shouldAdd al rel [] other = false := rfl

theorem shouldAdd_append (s t : List κ) (y : κ) :
    shouldAdd al rel (s ++ t) y = (shouldAdd al rel s y || shouldAdd al rel t y) := by
  simp [shouldAdd]

theorem shouldAdd_of_prefix {s t : List κ} (h : s <+: t) {y : κ}
    (hy : shouldAdd al rel s y = true) : shouldAdd al rel t y = true := by
  obtain ⟨e, rfl⟩ := h
  rw [shouldAdd_append, hy]; rfl

/-! ### one step of `partitionFirst` -/

def place (acc : List (List κ)) (x : κ) : List (List κ) :=
  match acc.findIdx? (fun g => shouldAdd al rel g x) with
  | some i => acc.modify i (· ++ [x])
  | none => acc ++ [[x]]

theorem partitionFirst_nil (acc : List (List κ)) : partitionFirst al rel [] acc = acc := by
  simp [partitionFirst]

theorem partitionFirst_cons (x : κ) (xs : List κ) (acc : List (List κ)) :
    partitionFirst al rel (x :: xs) acc = partitionFirst al rel xs (place al rel acc x) := by
  rw [partitionFirst, place]
  cases acc.findIdx? (fun g => shouldAdd al rel g x) <;> rfl

theorem partitionFirst_eq_foldl (xs : List κ) (acc : List (List κ)) :
    partitionFirst al rel xs acc = xs.foldl (place al rel) acc := by
  induction xs generalizing acc with
  | nil => exact partitionFirst_nil al rel acc
  | cons x xs ih => rw [partitionFirst_cons, ih, List.foldl_cons]

theorem partitionFirst_append (xs ys : List κ) (acc : List (List κ)) :
    partitionFirst al rel (xs ++ ys) acc
      = partitionFirst al rel ys (partitionFirst al rel xs acc) := by
  simp only [partitionFirst_eq_foldl, List.foldl_append]

theorem partitionFirst_snoc (xs : List κ) (x : κ) (acc : List (List κ)) :
    partitionFirst al rel (xs ++ [x]) acc = place al rel (partitionFirst al rel xs acc) x := by
  rw [partitionFirst_append, partitionFirst_cons, partitionFirst_nil]

/-- `pre` is the list of records placed so far -/
theorem partitionFirst_induction {P : List κ → List (List κ) → Prop}
    (step : ∀ pre acc x, P pre acc → P (pre ++ [x]) (place al rel acc x))
    (xs : List κ) {pre : List κ} {acc : List (List κ)} (h : P pre acc) :
    P (pre ++ xs) (partitionFirst al rel xs acc) := by
  induction xs generalizing pre acc with
  | nil => simpa [partitionFirst_nil] using h
  | cons x xs ih => simpa [partitionFirst_cons] using ih (step pre acc x h)

/-- `x` joins the first subgroup `b` that accepts it, the subgroups `l₁` before `b` having refused
    it; or all refuse and `[x]` becomes the last subgroup -/
theorem place_cases (acc : List (List κ)) (x : κ) :
    (∃ l₁ b l₂, acc = l₁ ++ b :: l₂ ∧ (∀ a ∈ l₁, shouldAdd al rel a x = false) ∧
        shouldAdd al rel b x = true ∧ place al rel acc x = l₁ ++ (b ++ [x]) :: l₂) ∨
    ((∀ a ∈ acc, shouldAdd al rel a x = false) ∧ place al rel acc x = acc ++ [[x]]) := by
  unfold place
  cases h : acc.findIdx? (fun g => shouldAdd al rel g x) with
  | none => exact .inr ⟨List.findIdx?_eq_none_iff.1 h, rfl⟩
  | some i =>
    obtain ⟨hi, hb, hlt⟩ := List.findIdx?_eq_some_iff_getElem.1 h
    refine .inl ⟨acc.take i, acc[i], acc.drop (i + 1), ?_, ?_, hb,
      List.modify_eq_take_cons_drop hi⟩
    · rw [List.getElem_cons_drop hi, List.take_append_drop]
    · intro a ha
      obtain ⟨j, hj, rfl⟩ := List.mem_take_iff_getElem.1 ha
      simpa using hlt j (by omega)

theorem mem_place {acc : List (List κ)} {x : κ} {s : List κ} (h : s ∈ place al rel acc x) :
    s ∈ acc ∨ (∃ b ∈ acc, shouldAdd al rel b x = true ∧ s = b ++ [x]) ∨ s = [x] := by
  rcases place_cases al rel acc x with ⟨l₁, b, l₂, rfl, -, hb, hp⟩ | ⟨-, hp⟩
  · rw [hp, List.mem_append, List.mem_cons] at h
    rcases h with h | rfl | h
    · exact .inl (by simp [h])
    · exact .inr (.inl ⟨b, by simp, hb, rfl⟩)
    · exact .inl (by simp [h])
  · rw [hp, List.mem_append, List.mem_singleton] at h
    exact h.imp_right .inr

theorem length_place (acc : List (List κ)) (x : κ) :
    (place al rel acc x).length = acc.length ∨
    ((∀ a ∈ acc, shouldAdd al rel a x = false) ∧ place al rel acc x = acc ++ [[x]]) := by
  rcases place_cases al rel acc x with ⟨l₁, b, l₂, rfl, -, -, h⟩ | h
  · left; rw [h]; simp
  · exact .inr h

theorem length_le_place (acc : List (List κ)) (x : κ) :
    acc.length ≤ (place al rel acc x).length := by
  rcases length_place al rel acc x with h | ⟨-, h⟩
  · omega
  · rw [h]; simp

theorem place_getElem?_prefix (acc : List (List κ)) (x : κ) {k : Nat} {s : List κ}
    (h : acc[k]? = some s) : ∃ s', (place al rel acc x)[k]? = some s' ∧ s <+: s' := by
  unfold place
  split
  · next i _ => by_cases hik : i = k <;> simp [h, hik]
  · simp [List.getElem?_append_left (List.getElem?_eq_some_iff.1 h).1, h]

/-! ### invariants of `partitionFirst` -/

theorem place_flatten_perm (acc : List (List κ)) (x : κ) :
    (place al rel acc x).flatten.Perm (acc.flatten ++ [x]) := by
  rcases place_cases al rel acc x with ⟨l₁, b, l₂, rfl, -, -, h⟩ | ⟨-, h⟩
  · rw [h]
    simp only [List.flatten_append, List.flatten_cons, List.append_assoc]
    refine List.Perm.append_left _ (List.Perm.append_left _ ?_)
    exact List.perm_append_comm
  · rw [h]; simp

theorem partitionFirst_flatten_perm (xs : List κ) (acc : List (List κ)) :
    (partitionFirst al rel xs acc).flatten.Perm (acc.flatten ++ xs) :=
  partitionFirst_induction al rel (P := fun pre acc => acc.flatten.Perm pre)
    (fun _ acc x h => (place_flatten_perm al rel acc x).trans (h.append_right [x])) xs (.refl _)

theorem partitionFirst_ne_nil (xs : List κ) {acc : List (List κ)} (h : ∀ s ∈ acc, s ≠ []) :
    ∀ s ∈ partitionFirst al rel xs acc, s ≠ [] := by
  refine partitionFirst_induction al rel (P := fun _ acc => ∀ s ∈ acc, s ≠ []) ?_ xs (pre := []) h
  intro _ acc x h s hs
  rcases mem_place al rel hs with h' | ⟨b, -, -, rfl⟩ | rfl
  · exact h s h'
  · simp
  · simp

theorem partitionFirst_sublist (xs : List κ) {pre : List κ} {acc : List (List κ)}
    (h : ∀ s ∈ acc, s.Sublist pre) : ∀ s ∈ partitionFirst al rel xs acc, s.Sublist (pre ++ xs) := by
  refine partitionFirst_induction al rel (P := fun pre acc => ∀ s ∈ acc, s.Sublist pre) ?_ xs h
  intro pre acc x h s hs
  rcases mem_place al rel hs with h' | ⟨b, hb, -, rfl⟩ | rfl
  · exact (h s h').trans (List.sublist_append_left _ _)
  · exact (h b hb).append (List.Sublist.refl _)
  · exact List.sublist_append_right _ _

/-- every later member passed the test against the earlier members of its subgroup -/
def Chained (s : List κ) : Prop :=
  ∀ i (h : i < s.length), 0 < i → shouldAdd al rel (s.take i) s[i] = true

theorem chained_nil : Chained al rel ([] : List κ) := fun i h => by simp at h

theorem chained_singleton (x : κ) : Chained al rel [x] := by
  intro i h hi
  simp at h
  omega

theorem chained_snoc {s : List κ} {x : κ} (hs : Chained al rel s)
    (hx : shouldAdd al rel s x = true) : Chained al rel (s ++ [x]) := by
  intro i h hi
  simp only [List.length_append, List.length_singleton] at h
  by_cases hlt : i < s.length
  · rw [List.take_append_of_le_length (by omega), List.getElem_append_left hlt]
    exact hs i hlt hi
  · have : i = s.length := by omega
    subst this
    simp [hx]

theorem partitionFirst_chained (xs : List κ) {acc : List (List κ)}
    (h : ∀ s ∈ acc, Chained al rel s) : ∀ s ∈ partitionFirst al rel xs acc, Chained al rel s := by
  refine partitionFirst_induction al rel (P := fun _ acc => ∀ s ∈ acc, Chained al rel s) ?_ xs
    (pre := []) h
  intro _ acc x h s hs
  rcases mem_place al rel hs with h' | ⟨b, hb, hbx, rfl⟩ | rfl
  · exact h s h'
  · exact chained_snoc al rel (h b hb) hbx
  · exact chained_singleton al rel x

theorem length_le_partitionFirst (xs : List κ) (acc : List (List κ)) :
    acc.length ≤ (partitionFirst al rel xs acc).length :=
  partitionFirst_induction al rel (P := fun _ acc' => acc.length ≤ acc'.length)
    (fun _ acc' x h => Nat.le_trans h (length_le_place al rel acc' x)) xs (pre := [])
    (Nat.le_refl _)

theorem partitionFirst_getElem?_prefix (xs : List κ) (acc : List (List κ)) {k : Nat} {s : List κ}
    (h : acc[k]? = some s) :
    ∃ s', (partitionFirst al rel xs acc)[k]? = some s' ∧ s <+: s' := by
  refine partitionFirst_induction al rel (P := fun _ acc => ∃ s', acc[k]? = some s' ∧ s <+: s')
    ?_ xs (pre := []) ⟨s, h, List.prefix_refl s⟩
  intro _ acc x ⟨s₁, h₁, p₁⟩
  obtain ⟨s₂, h₂, p₂⟩ := place_getElem?_prefix al rel acc x h₁
  exact ⟨s₂, h₂, p₁.trans p₂⟩

/-- every subgroup opened during the run (position `j ≥ acc.length`) was opened by a record `x`
    that, when it arrived (after the records `pre`), found exactly `j` subgroups and failed the
    test against every one of them -/
theorem partitionFirst_opens (xs : List κ) (acc : List (List κ)) {j : Nat} {s : List κ}
    (hj : acc.length ≤ j) (h : (partitionFirst al rel xs acc)[j]? = some s) :
    ∃ pre x post, xs = pre ++ x :: post ∧ s.head? = some x ∧
      (partitionFirst al rel pre acc).length = j ∧
      ∀ t ∈ partitionFirst al rel pre acc, shouldAdd al rel t x = false := by
  induction xs generalizing acc with
  | nil =>
    rw [partitionFirst_nil] at h
    have := (List.getElem?_eq_some_iff.1 h).1
    omega
  | cons x xs ih =>
    rw [partitionFirst_cons] at h
    by_cases hj' : (place al rel acc x).length ≤ j
    · obtain ⟨pre, x', post, rfl, hh, hl, hf⟩ := ih _ hj' h
      exact ⟨x :: pre, x', post, rfl, hh, by rw [partitionFirst_cons]; exact hl,
        by rw [partitionFirst_cons]; exact hf⟩
    · rcases length_place al rel acc x with hl | ⟨hf, hp⟩
      · omega
      · have hjeq : j = acc.length := by
          rw [hp] at hj'; simp at hj'; omega
        subst hjeq
        have h0 : (place al rel acc x)[acc.length]? = some [x] := by
          rw [hp]; simp
        obtain ⟨s', hs', hpre⟩ := partitionFirst_getElem?_prefix al rel xs _ h0
        rw [h] at hs'
        cases hs'
        obtain ⟨e, rfl⟩ := hpre
        exact ⟨[], x, xs, rfl, rfl, by rw [partitionFirst_nil], by rw [partitionFirst_nil]; exact hf⟩

/-! ### relabelling -/

theorem modify_map {α β : Type} (f : α → β) (g : α → α) (g' : β → β)
    (hg : ∀ a, f (g a) = g' (f a)) (l : List α) (i : Nat) :
    (l.map f).modify i g' = (l.modify i g).map f := by
  induction l generalizing i with
  | nil => simp
  | cons a l ih =>
    cases i with
    | zero => simp [List.modify_zero_cons, hg]
    | succ i => simp [List.modify_succ_cons, ih]

def AlOps.comap {κ' : Type} (al : AlOps κ) (f : κ' → κ) : AlOps κ' where
  ref k := al.ref (f k)
  alts k := al.alts (f k)

theorem shouldAdd_map {κ' : Type} (f : κ' → κ) (s : List κ') (y : κ') :
    shouldAdd al rel (s.map f) (f y) = shouldAdd (al.comap f) rel s y := by
  simp [shouldAdd, AlOps.comap, List.any_map, Function.comp_def]

theorem place_map {κ' : Type} (f : κ' → κ) (acc : List (List κ')) (x : κ') :
    place al rel (acc.map (List.map f)) (f x) = (place (al.comap f) rel acc x).map (List.map f) := by
  simp only [place, List.findIdx?_map, Function.comp_def, shouldAdd_map]
  split
  · exact modify_map (List.map f) (· ++ [x]) (· ++ [f x]) (by simp) acc _
  · simp

theorem partitionFirst_map {κ' : Type} (f : κ' → κ) (xs : List κ') (acc : List (List κ')) :
    partitionFirst al rel (xs.map f) (acc.map (List.map f))
      = (partitionFirst (al.comap f) rel xs acc).map (List.map f) := by
  induction xs generalizing acc with
  | nil => simp [partitionFirst_nil]
  | cons x xs ih =>
    rw [List.map_cons, partitionFirst_cons, partitionFirst_cons, place_map, ih]

end Model
