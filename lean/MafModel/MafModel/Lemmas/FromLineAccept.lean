/-
  `MafRecord.from_line` on a line whose every field is accepted — for schemes whose classes
  are custom column types (they inherit `MafCustomColumnRecord.build`) *or* the unrestricted
  base class `MafColumnRecord` (`NoRestrictionsScheme`), in any mixture; `SchemeOK` of
  `Lemmas/FromLineLemmas.lean` is the case of custom classes only.  Used by C06 and C02.
-/
import MafModel.Lemmas.FromLineLemmas
import MafModel.Lemmas.TextLemmas
open Py
namespace Model

structure SchemeOKGen (C : Ctx) (S : Scheme) : Prop where
  nodup : S.names.Nodup
  pos : S.size > 0
  cls_ok : ∀ p ∈ S.cols, ∃ sp, resolveSpec C.tbl p.2 = some sp ∧ isSubclass C p.2 p.2 = true ∧
    ((p.2 ≠ "MafColumnRecord" ∧ sp.buildMethod = some "MafCustomColumnRecord") ∨
     (p.2 = "MafColumnRecord" ∧ sp.buildMethod = some "MafColumnRecord" ∧
        sp.validateMethod ≠ some "MafCustomColumnRecord"))

/-- the hypotheses of the record-level theorems of C01 are the special case without
    `MafColumnRecord` columns -/
theorem SchemeOK.gen {C : Ctx} {S : Scheme} (h : SchemeOK C S)
    (hbase : ∀ p ∈ S.cols, p.2 ≠ "MafColumnRecord") : SchemeOKGen C S where
  nodup := h.nodup
  pos := h.pos
  cls_ok := by
    intro p hp
    obtain ⟨sp, h1, h2, h3⟩ := h.cls_ok p hp
    exact ⟨sp, h1, h3, Or.inl ⟨hbase p hp, h2⟩⟩

theorem SchemeOKGen.truthy {C : Ctx} {S : Scheme} (h : SchemeOKGen C S) : S.truthy = true := by
  simp [Scheme.truthy, h.pos]

theorem SchemeOKGen.kind {C : Ctx} {S : Scheme} (hS : SchemeOKGen C S) {i : Nat} {n cls : String}
    {sp : ColSpec} (hp : S.cols[i]? = some (n, cls)) (hsp : resolveSpec C.tbl cls = some sp) :
    isSubclass C cls cls = true ∧ ClassKind cls sp := by
  obtain ⟨sp', hsp', hsub, hcase⟩ := hS.cls_ok _ (List.mem_of_getElem? hp)
  cases hsp.symm.trans hsp'
  exact ⟨hsub, hcase.imp_left And.right⟩

theorem fromLineStep_accept {C : Ctx} {S : Scheme} (hS : SchemeOKGen C S) (lineNo : Option Nat)
    (r : Record) {i : Nat} {n cls : String} {sp : ColSpec} (f : Text) {v : PyVal}
    (hp : S.cols[i]? = some (n, cls)) (hsp : resolveSpec C.tbl cls = some sp)
    (ha : sp.accept C (plainOk cls) f = some v) :
    fromLineStep C (some S) lineNo (.ok (r, i)) (n.toList, f) =
      (match r.setItem (.name n.toList) (fieldCol i n cls v) with
       | (r2, .ok ()) => .ok (r2, i + 1)
       | (_, .error e) => .error e)
    ∧ (fieldCol i n cls v).col.validate C none none = [] := by
  obtain ⟨hsub, hkind⟩ := hS.kind hp hsp
  exact ⟨by rw [fromLineStep_eq hS.nodup hS.pos lineNo r f hp hsp hsub hkind, ha]; rfl,
    fieldCol_valid i n cls hsp (accept_valid hkind ha)⟩

/-! ### the record built from a line whose fields are all accepted -/

/-- the column stored at position `i`; `default` stands where a field is not accepted, which
    `AllAccepted` excludes -/
def accCol (C : Ctx) (S : Scheme) (fields : List Text) (i : Nat) : RCol :=
  match S.cols[i]?, fields[i]? with
  | some p, some f =>
    match resolveSpec C.tbl p.2 with
    | some sp =>
      match sp.accept C (plainOk p.2) f with
      | some v => fieldCol i p.1 p.2 v
      | none => default
    | none => default
  | _, _ => default

/-- the record after the first `k` fields -/
def accRec (C : Ctx) (S : Scheme) (fields : List Text) (lineNo : Option Nat) (m : Mode) (k : Nat) :
    Record :=
  { dict := (List.range k).map (fun i => ((accCol C S fields i).col.key, accCol C S fields i))
    slots := (List.range k).map (fun i => some (accCol C S fields i))
    errors := []
    line := lineNo
    mode := m }

def AllAccepted (C : Ctx) (S : Scheme) (fields : List Text) : Prop :=
  ∀ (i : Nat) (n cls : String) (sp : ColSpec) (f : Text),
    S.cols[i]? = some (n, cls) → resolveSpec C.tbl cls = some sp → fields[i]? = some f →
    (sp.accept C (plainOk cls) f).isSome = true

theorem accCol_eq {C : Ctx} {S : Scheme} {fields : List Text} (hall : AllAccepted C S fields)
    {i : Nat} {n cls : String} {sp : ColSpec} {f : Text} (hp : S.cols[i]? = some (n, cls))
    (hf : fields[i]? = some f) (hsp : resolveSpec C.tbl cls = some sp) :
    ∃ v, sp.accept C (plainOk cls) f = some v ∧ accCol C S fields i = fieldCol i n cls v := by
  obtain ⟨v, ha⟩ := Option.isSome_iff_exists.1 (hall i n cls sp f hp hsp hf)
  exact ⟨v, ha, by simp [accCol, hp, hf, hsp, ha]⟩

theorem accRec_eq_loopRec (C : Ctx) (S : Scheme) (fields : List Text) (lineNo : Option Nat) (m : Mode)
    (k : Nat) :
    accRec C S fields lineNo m k = loopRec (fun i => some (accCol C S fields i)) (fun _ => []) lineNo m k := by
  have hs : trimNone ((List.range k).map fun i => some (accCol C S fields i)) =
      (List.range k).map fun i => some (accCol C S fields i) :=
    trimNone_of_getLast? _ (by cases k <;> simp [List.range_succ])
  simp [accRec, loopRec, hs, List.filterMap_map, Function.comp_def]

theorem fromLine_loop_accept {C : Ctx} {S : Scheme} (hS : SchemeOKGen C S) (fields : List Text)
    (hlen : fields.length = S.size) (hall : AllAccepted C S fields)
    (lineNo : Option Nat) (m : Mode) (k : Nat) (hk : k ≤ S.size) :
    (((S.names.map String.toList).zip fields).take k).foldl (fromLineStep C (some S) lineNo)
        (.ok ({ line := lineNo, mode := m }, 0)) = .ok (accRec C S fields lineNo m k, k)
      ∧ (accRec C S fields lineNo m k).Inv
      ∧ ∀ c, some c ∈ (accRec C S fields lineNo m k).slots → c.col.validate C none none = [] := by
  -- at position `i` the accepted column is built, stored, and valid
  have hstored {i n cls f} (hp : S.cols[i]? = some (n, cls)) (hf : fields[i]? = some f) :
      ∃ sp v, resolveSpec C.tbl cls = some sp ∧ sp.accept C (plainOk cls) f = some v ∧
        accCol C S fields i = fieldCol i n cls v := by
    obtain ⟨sp, hsp, _⟩ := hS.cls_ok _ (List.mem_of_getElem? hp)
    obtain ⟨v, ha, hcol⟩ := accCol_eq hall hp hf hsp
    exact ⟨sp, v, hsp, ha, hcol⟩
  rw [accRec_eq_loopRec, ← and_assoc]
  refine ⟨fromLine_loop_gen hS.nodup hlen ?_ ?_ m k hk, ?_⟩
  · intro i n cls f r hp hf
    obtain ⟨sp, v, hsp, ha, hcol⟩ := hstored hp hf
    rw [(fromLineStep_accept hS lineNo r f hp hsp ha).1, hcol]
    rfl
  · intro i n cls c hp hc
    obtain ⟨f, hf⟩ : ∃ f, fields[i]? = some f :=
      ⟨_, List.getElem?_eq_getElem (hlen ▸ (List.getElem?_eq_some_iff.1 hp).1)⟩
    obtain ⟨sp, v, _, _, hcol⟩ := hstored hp hf
    cases hc
    exact ⟨by rw [hcol]; rfl, by rw [hcol]; rfl, rfl⟩
  · intro c hc
    obtain ⟨i, hi, hci⟩ := loopRec_slot_mem hc
    cases hci
    have hi' : i < S.cols.length := by have : k ≤ S.cols.length := hk; omega
    obtain ⟨⟨n, cls⟩, hp⟩ : ∃ p, S.cols[i]? = some p := ⟨_, List.getElem?_eq_getElem hi'⟩
    obtain ⟨f, hf⟩ : ∃ f, fields[i]? = some f := ⟨_, List.getElem?_eq_getElem (hlen ▸ hi')⟩
    obtain ⟨sp, v, hsp, ha, hcol⟩ := hstored hp hf
    rw [hcol]
    exact (fromLineStep_accept hS lineNo default f hp hsp ha).2

/-- A line made of `S.size` TAB/CR/LF-free fields, each accepted by the class of its column,
    is accepted by a Strict reader: `from_line` returns a record without any error and logs
    nothing, with or without the line terminator. -/
theorem fromLine_strict_accepts_gen {C : Ctx} {S : Scheme} (hS : SchemeOKGen C S)
    (fields : List Text) (hlen : fields.length = S.size)
    (hclean : ∀ f ∈ fields, ∀ c ∈ f, c ≠ '\t' ∧ c ≠ '\n' ∧ c ≠ '\r')
    (hall : AllAccepted C S fields)
    (lineNo : Option Nat) (term : Text) (hterm : term = [] ∨ term = ['\n'] ∨ term = ['\r', '\n']) :
    ∃ r', Record.fromLine C (joinWith '\t' fields ++ term) none (some S) lineNo (some .strict)
        = .ok (r', []) ∧ r'.errors = [] ∧ r'.slots.length = S.size := by
  have hne : fields ≠ [] := by
    intro e; have := hS.pos; rw [e] at hlen; simp at hlen; omega
  have hcl : ∀ c ∈ joinWith '\t' fields, c ≠ '\r' ∧ c ≠ '\n' :=
    joinWith_tab_clean fields (fun f hf c hc => ⟨(hclean f hf c hc).2.2, (hclean f hf c hc).2.1⟩)
  have hstrip : rstripCRLF (joinWith '\t' fields ++ term) = joinWith '\t' fields := by
    rcases hterm with rfl | rfl | rfl
    · rw [List.append_nil]; exact rstripCRLF_of_clean _ hcl
    · exact (rstripCRLF_append_lf _ hcl).1
    · exact (rstripCRLF_append_lf _ hcl).2.1
  have hfields : splitOn '\t' (rstripCRLF (joinWith '\t' fields ++ term)) = fields := by
    rw [hstrip]
    exact splitOn_tab_join fields hne (fun f hf hc => (hclean f hf _ hc).1 rfl)
  rw [fromLine_eq]
  simp only [hfields]
  have hn : ¬ ((S.names.map String.toList).length ≠ fields.length) := by
    simp [Scheme.names, hlen, Scheme.size]
  simp only [hn, if_false]
  obtain ⟨h1, h2, h3⟩ := fromLine_loop_accept hS fields hlen hall lineNo (modeOrSilent (some .strict))
    S.size (Nat.le_refl _)
  rw [List.take_of_length_le (by simp [Scheme.names, hlen, Scheme.size])] at h1
  rw [h1]
  simp only
  rw [validate_spec C _ h2 h3]
  have hnv : noValueErrs (accRec C S fields lineNo (modeOrSilent (some .strict)) S.size).line
      (accRec C S fields lineNo (modeOrSilent (some .strict)) S.size).slots = [] := by
    rw [noValueErrs_eq_nil_iff]
    simp [accRec]
  rw [hnv]
  simp only [accRec, List.append_nil, modeOrSilent, processErrors]
  exact ⟨_, rfl, rfl, by simp⟩

end Model
