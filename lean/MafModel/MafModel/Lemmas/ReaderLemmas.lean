/-
  The reader (`MafModel/Model/Reader.lean`): where the look-ahead stands in the input, what
  `Reader.init` computes, and invariant reasoning over `Reader.iterate`.
-/
import MafModel.Lemmas.ReaderHeader
import MafModel.Lemmas.SortOrderLemmas
open Py
namespace Model

/-! ### the input as the reader sees it -/

def stripped (lines : List Text) : List Text := lines.map rstripCRLF

def headerBlock (K : HConsts) (lines : List Text) : List Text :=
  (stripped lines).takeWhile (fun l => decide (l.head? = some K.startSymbol))

/-- `k`: the number of header lines -/
def headerLen (K : HConsts) (lines : List Text) : Nat := (headerBlock K lines).length

/-- the data lines: everything after the column-name line -/
def dataLines (K : HConsts) (lines : List Text) : List Text := (stripped lines).drop (headerLen K lines + 1)

@[simp] theorem stripped_length (lines : List Text) : (stripped lines).length = lines.length := by
  simp [stripped]

theorem headerLen_le (K : HConsts) (lines : List Text) : headerLen K lines ≤ lines.length := by
  simpa [headerLen, headerBlock] using (List.takeWhile_prefix (l := stripped lines) _).length_le

theorem headerBlock_eq_take (K : HConsts) (lines : List Text) :
    headerBlock K lines = (stripped lines).take (headerLen K lines) :=
  List.prefix_iff_eq_take.1 (List.takeWhile_prefix _)

theorem not_header_at_headerLen (K : HConsts) (lines : List Text) (l : Text)
    (h : (stripped lines)[headerLen K lines]? = some l) : l.head? ≠ some K.startSymbol := by
  unfold headerLen headerBlock at h
  rw [List.takeWhile_eq_take_findIdx_not, List.length_take, Nat.min_eq_left List.findIdx_le_length] at h
  obtain ⟨hlt, rfl⟩ := List.getElem?_eq_some_iff.1 h
  simpa using List.findIdx_getElem (w := hlt)

theorem header_of_mem_headerBlock (K : HConsts) (lines : List Text) (l : Text)
    (h : l ∈ headerBlock K lines) : l.head? = some K.startSymbol := by
  simpa using List.all_eq_true.1 List.all_takeWhile l h

/-! ### `advance` -/

@[simp] theorem advance_header (r : Reader) : r.advance.header = r.header := by
  unfold Reader.advance; split <;> rfl
@[simp] theorem advance_scheme (r : Reader) : r.advance.scheme = r.scheme := by
  unfold Reader.advance; split <;> rfl
@[simp] theorem advance_errors (r : Reader) : r.advance.errors = r.errors := by
  unfold Reader.advance; split <;> rfl
@[simp] theorem advance_mode (r : Reader) : r.advance.mode = r.mode := by
  unfold Reader.advance; split <;> rfl
@[simp] theorem advance_logs (r : Reader) : r.advance.logs = r.logs := by
  unfold Reader.advance; split <;> rfl
@[simp] theorem advance_pulled (r : Reader) : r.advance.pulled = r.pulled + 1 := by
  unfold Reader.advance; split <;> rfl
@[simp] theorem advance_src (r : Reader) : r.advance.src = r.src.tail := by
  unfold Reader.advance; split <;> simp_all
@[simp] theorem advance_next (r : Reader) : r.advance.next = r.src.head?.map rstripCRLF := by
  unfold Reader.advance; split <;> simp_all
theorem advance_lineNo (r : Reader) :
    r.advance.lineNo = r.lineNo + (if r.src = [] then 0 else 1) := by
  unfold Reader.advance; split <;> simp_all

theorem advance_with (r : Reader) (h : Header) (s : Option Scheme) (es : List VErr) (m : Mode)
    (lg : List LogRec) :
    ({ r with header := h, scheme := s, errors := es, mode := m, logs := lg } : Reader).advance =
      { r.advance with header := h, scheme := s, errors := es, mode := m, logs := lg } := by
  unfold Reader.advance
  cases r.src <;> rfl

/-- **the look-ahead stands at (0-based) line `p`**: `p + 1` pulls so far, the look-ahead is
    line `p` (if there is one), the line counter is the number of lines really read -/
structure At (lines : List Text) (r : Reader) (p : Nat) : Prop where
  pulled : r.pulled = p + 1
  src : r.src = lines.drop (p + 1)
  lineNo : r.lineNo = min (p + 1) lines.length
  next : r.next = (stripped lines)[p]?

theorem At.advance {lines : List Text} {r : Reader} {p : Nat} (h : At lines r p) :
    At lines r.advance (p + 1) := by
  refine ⟨by simp [h.pulled], by simp [h.src], ?_, ?_⟩
  · rw [advance_lineNo, h.src, h.lineNo]
    by_cases hp : p + 1 < lines.length
    · have : lines.drop (p + 1) ≠ [] := by simp; omega
      rw [if_neg this]; omega
    · have : lines.drop (p + 1) = [] := by simp; omega
      rw [if_pos this]; omega
  · rw [advance_next, h.src]
    simp [stripped, List.head?_drop]

theorem At.src_length {lines : List Text} {r : Reader} {p : Nat} (h : At lines r p) :
    r.src.length + min r.pulled lines.length = lines.length := by
  rw [h.src, h.pulled]; simp; omega

theorem At.next_none_iff {lines : List Text} {r : Reader} {p : Nat} (h : At lines r p) :
    r.next = none ↔ lines.length ≤ p := by
  rw [h.next]; simp

/-! ### `readHeaderLines` -/

theorem readHeaderLines_spec (K : HConsts) :
    ∀ (fuel : Nat) (r : Reader) (acc : List Text), r.src.length < fuel →
      readHeaderLines K fuel r acc =
        ({ r with src := r.src.drop ((headerBlock K r.src).length + 1),
                  pulled := r.pulled + (headerBlock K r.src).length + 1,
                  next := (stripped r.src)[(headerBlock K r.src).length]?,
                  lineNo := r.lineNo + min ((headerBlock K r.src).length + 1) r.src.length },
         acc ++ headerBlock K r.src) := by
  intro fuel
  induction fuel with
  | zero => intro r acc h; omega
  | succ fuel ih =>
    intro r acc hf
    obtain ⟨src, pulled, next, lineNo, header, scheme, errors, mode, logs⟩ := r
    cases src with
    | nil =>
      simp [readHeaderLines, Reader.advance, headerBlock, stripped]
    | cons l ls =>
      simp only [List.length_cons] at hf
      by_cases hl : (rstripCRLF l).head? = some K.startSymbol
      · have hb : headerBlock K (l :: ls) = rstripCRLF l :: headerBlock K ls := by
          simp [headerBlock, stripped, hl]
        simp only [readHeaderLines, Reader.advance, hl, if_true, hb]
        rw [ih _ _ (by simp; omega)]
        simp [stripped]
        omega
      · have hb : headerBlock K (l :: ls) = [] := by
          simp [headerBlock, stripped, hl]
        simp [readHeaderLines, Reader.advance, hl, hb, stripped]

/-- the header loop of `__init__`, with the fuel `Reader.init` provides: it stops with the look-ahead
    on the line after the header block, which it has pulled but not consumed -/
theorem readHeaderLines_init (K : HConsts) (lines : List Text) (m : Mode) :
    readHeaderLines K (lines.length + 1) { src := lines, mode := m } [] =
      ({ src := lines.drop (headerLen K lines + 1), pulled := headerLen K lines + 1,
         next := (stripped lines)[headerLen K lines]?,
         lineNo := min (headerLen K lines + 1) lines.length, mode := m },
       headerBlock K lines) := by
  rw [readHeaderLines_spec K _ _ _ (by simp)]
  simp [headerLen]

/-! ### `Reader.init`, taken apart -/

/-- `HEADER_MISMATCH_SCHEME`: the given scheme against the scheme the header names -/
def initE1 (hs given : Option Scheme) : List VErr :=
  match given with
  | some g =>
    (match hs with
     | some s => if g.version ≠ s.version then [{ tpe := "HEADER_MISMATCH_SCHEME", line := none }] else []
     | none => [])
  | none => []

/-- the scheme before the column names are seen: the given one, else the header's -/
def initSch1 (hs given : Option Scheme) : Option Scheme :=
  match given with
  | some g => some g
  | none => hs

/-- no usable scheme: the reader falls back to `NoRestrictionsScheme(column names)` -/
def schemeless (sch1 : Option Scheme) : Prop := sch1.isNone ∨ (sch1.map (·.noRestrictions)) = some true

instance (sch1 : Option Scheme) : Decidable (schemeless sch1) := by unfold schemeless; infer_instance

/-- the scheme the records are read with -/
def initSch2 (colNames : Option (List Text)) (sch1 : Option Scheme) : Option Scheme :=
  match colNames with
  | some names => if schemeless sch1 then some (noRestrictionsScheme (names.map String.ofList)) else sch1
  | none => sch1

/-- the `NO_MATCHING_SCHEME_WARNING` log record -/
def initWarn (m : Mode) (colNames : Option (List Text)) (sch1 : Option Scheme) : List LogRec :=
  match colNames with
  | some _ => if schemeless sch1 then (if m ≠ .silent then [{ tpe := "NO_MATCHING_SCHEME_WARNING", line := none }] else []) else []
  | none => []

/-- the column-name errors; `k` = number of header lines, so the column-name line is line `k + 1` -/
def initE2 (colNames : Option (List Text)) (sch2 : Option Scheme) (k : Nat) : List VErr :=
  match colNames, sch2 with
  | some names, some s =>
    let snames := s.names.map String.toList
    if names.length ≠ snames.length then
      [{ tpe := "SCHEME_MISMATCHING_NUMBER_OF_COLUMN_NAMES", line := some (k + 1), origin := some (k + 1) }]
    else (names.zip snames).filterMap (fun p =>
      if p.1 ≠ p.2 then some { tpe := "SCHEME_MISMATCHING_COLUMN_NAMES", line := some (k + 1), origin := some (k + 1) } else none)
  | some _, none => []
  | none, _ => [{ tpe := "HEADER_MISSING_COLUMN_NAMES", line := some (k + 1), origin := some (k + 1) }]

/-- the reader `__init__` leaves: look-ahead at line `p` -/
def initReader (lines : List Text) (p : Nat) (h : Header) (sch : Option Scheme) (errs : List VErr)
    (m : Mode) (logs : List LogRec) : Reader :=
  { src := lines.drop (p + 1), pulled := p + 1, next := (stripped lines)[p]?,
    lineNo := min (p + 1) lines.length, header := h, scheme := sch, errors := errs, mode := m, logs := logs }

theorem initReader_at (lines : List Text) (p : Nat) (hd : Header) (sch : Option Scheme) (es : List VErr)
    (m : Mode) (lg : List LogRec) : At lines (initReader lines p hd sch es m lg) p :=
  ⟨rfl, rfl, rfl, rfl⟩

theorem At.eq_initReader {lines : List Text} {r : Reader} {p : Nat} (h : At lines r p) :
    r = initReader lines p r.header r.scheme r.errors r.mode r.logs := by
  obtain ⟨src, pulled, next, lineNo, header, scheme, errors, mode, logs⟩ := r
  obtain ⟨rfl, rfl, rfl, rfl⟩ := h
  rfl

theorem initReader_advance (lines : List Text) (p : Nat) (hd : Header) (sch : Option Scheme) (es : List VErr)
    (m : Mode) (lg : List LogRec) :
    (initReader lines p hd sch es m lg).advance = initReader lines (p + 1) hd sch es m lg := by
  simpa [initReader] using (initReader_at lines p hd sch es m lg).advance.eq_initReader

/-- the column names: the fields of the line after the header block -/
def colNamesOf (K : HConsts) (lines : List Text) : Option (List Text) :=
  (stripped lines)[headerLen K lines]?.map (splitOn '\t')

def schemeOf (K : HConsts) (R : Registry) (lines : List Text) (given : Option Scheme) (hd : Header) :
    Option Scheme :=
  initSch2 (colNamesOf K lines) (initSch1 (hd.scheme K R) given)

/-- the scheme-mismatch and column-name errors of `__init__` -/
def initErrorsOf (K : HConsts) (R : Registry) (lines : List Text) (given : Option Scheme) (hd : Header) :
    List VErr :=
  initE1 (hd.scheme K R) given ++ initE2 (colNamesOf K lines) (schemeOf K R lines given hd) (headerLen K lines)

def warnOf (K : HConsts) (R : Registry) (lines : List Text) (given : Option Scheme) (m : Mode) : List LogRec :=
  initWarn m (colNamesOf K lines) (initSch1 ((parsedHeader K R (headerBlock K lines)).scheme K R) given)

/-- the reader the Silent construction gives (it never fails) -/
def silentReader (K : HConsts) (R : Registry) (lines : List Text) (given : Option Scheme) : Reader :=
  initReader lines (min (headerLen K lines + 1) lines.length)
    ((parsedHeader K R (headerBlock K lines)).withMode .silent)
    (schemeOf K R lines given (parsedHeader K R (headerBlock K lines)))
    ((parsedHeader K R (headerBlock K lines)).errors ++
      initErrorsOf K R lines given (parsedHeader K R (headerBlock K lines)))
    .silent []

def Reader.withMode (r : Reader) (m : Mode) (logs : List LogRec) : Reader :=
  { r with header := r.header.withMode m, mode := m, logs := logs }

theorem init_eq (C : Ctx) (K : HConsts) (R : Registry) (lines : List Text) (mode : Option Mode)
    (given : Option Scheme) :
    Reader.init C K R lines mode given =
      match processErrors (modeOrSilent mode) (parsedHeader K R (headerBlock K lines)).errors with
      | .error e => .error e
      | .ok hlogs =>
        match processErrors (modeOrSilent mode) (silentReader K R lines given).errors with
        | .error e => .error e
        | .ok lg => .ok ((silentReader K R lines given).withMode (modeOrSilent mode)
                          (hlogs ++ warnOf K R lines given (modeOrSilent mode) ++ lg)) := by
  unfold Reader.init
  simp only []
  rw [readHeaderLines_init]
  simp only [fromLines_spec, show modeOrSilent (some (modeOrSilent mode)) = modeOrSilent mode from rfl]
  cases processErrors (modeOrSilent mode) (parsedHeader K R (headerBlock K lines)).errors with
  | error e => rfl
  | ok hlogs =>
    simp only []
    have hk := headerLen_le K lines
    cases hc : (stripped lines)[headerLen K lines]? with
    | none =>
      have hmin : min (headerLen K lines + 1) lines.length = headerLen K lines := by
        have : lines.length ≤ headerLen K lines := by simpa using hc
        omega
      simp only [silentReader, initReader, initErrorsOf, schemeOf, warnOf, colNamesOf, hc, hmin, List.append_assoc]
      cases given <;> rfl
    | some l =>
      have hmin : min (headerLen K lines + 1) lines.length = headerLen K lines + 1 := by
        have := (List.getElem?_eq_some_iff.1 hc).1
        simp only [stripped_length] at this
        omega
      have hadv := initReader_advance lines (headerLen K lines)
        ((parsedHeader K R (headerBlock K lines)).withMode (modeOrSilent mode)) none
        ((parsedHeader K R (headerBlock K lines)).withMode (modeOrSilent mode)).errors (modeOrSilent mode) hlogs
      simp only [initReader, hc] at hadv
      simp only [hadv]
      simp only [silentReader, initReader, initErrorsOf, schemeOf, warnOf, colNamesOf, hc, hmin, List.append_assoc]
      simp only [Header.withMode_scheme]
      -- the model computes `(e1, sch1)` and `(sch2, warn)` as pairs: what they are is decided by
      -- `given`, by the scheme the header names and by whether the scheme chosen is usable
      cases given with
      | some g =>
        by_cases hs : g.noRestrictions = true
        · -- given, but a `NoRestrictionsScheme`: replaced by the one of the column names
          simp only [initSch1, initSch2, initWarn, schemeless, Option.map_some, hs, Option.isNone_some,
            Bool.false_eq_true, false_or, ↓reduceIte]
          cases (parsedHeader K R (headerBlock K lines)).scheme K R <;> rfl
        · -- given and usable
          simp only [initSch1, initSch2, initWarn, schemeless, Option.map_some, hs, Option.isNone_some,
            Bool.false_eq_true, false_or, Option.some.injEq, ↓reduceIte]
          cases (parsedHeader K R (headerBlock K lines)).scheme K R <;> rfl
      | none =>
        by_cases hs : schemeless ((parsedHeader K R (headerBlock K lines)).scheme K R)
        · -- neither given nor usable from the header: the one of the column names
          simp only [initSch1, initSch2, initWarn, hs, ↓reduceIte]
          simp only [schemeless] at hs
          simp only [hs, ↓reduceIte]
          rfl
        · -- the header's scheme
          simp only [initSch1, initSch2, initWarn, hs, ↓reduceIte]
          simp only [schemeless] at hs
          simp only [hs, ↓reduceIte]
          cases (parsedHeader K R (headerBlock K lines)).scheme K R <;> rfl

theorem init_ok {C : Ctx} {K : HConsts} {R : Registry} {lines : List Text} {mode : Option Mode}
    {given : Option Scheme} {r : Reader} (h : Reader.init C K R lines mode given = .ok r) :
    ∃ lg, r = (silentReader K R lines given).withMode (modeOrSilent mode) lg := by
  rw [init_eq] at h
  repeat' split at h
  all_goals cases h
  exact ⟨_, rfl⟩

/-- after construction the look-ahead stands on the first data line, or at the end of the input -/
theorem init_at {C : Ctx} {K : HConsts} {R : Registry} {lines : List Text} {mode : Option Mode}
    {given : Option Scheme} {r : Reader} (h : Reader.init C K R lines mode given = .ok r) :
    At lines r (min (headerLen K lines + 1) lines.length) := by
  obtain ⟨lg, rfl⟩ := init_ok h
  exact ⟨rfl, rfl, rfl, rfl⟩

theorem initWarn_silent (cn : Option (List Text)) (s : Option Scheme) : initWarn .silent cn s = [] := by
  unfold initWarn
  repeat' split
  all_goals first | rfl | contradiction

theorem init_silent (C : Ctx) (K : HConsts) (R : Registry) (lines : List Text) (given : Option Scheme) :
    Reader.init C K R lines (some .silent) given = .ok (silentReader K R lines given) := by
  rw [init_eq]
  simp only [modeOrSilent, processErrors_silent, warnOf, initWarn_silent]
  rfl

/-! ### `nextRecord` and `iterate` -/

/-- the ghost stamp `__next__` puts on the errors of the record it returns -/
def stamp (n : Nat) (es : List VErr) : List VErr := es.map (fun e => { e with origin := some n })

@[simp] theorem stamp_nil (n : Nat) : stamp n [] = [] := rfl
theorem stamp_eq_nil {n : Nat} {es : List VErr} : stamp n es = [] ↔ es = [] := by simp [stamp]
theorem errLogs_stamp (m : Mode) (n : Nat) (es : List VErr) : errLogs m (stamp n es) = errLogs m es :=
  errLogs_map_origin m es (some n)
theorem mem_stamp {n : Nat} {es : List VErr} {e : VErr} :
    e ∈ stamp n es ↔ ∃ e' ∈ es, e = { e' with origin := some n } := by
  simp [stamp, eq_comm]

/-- the record `__next__` returns for the parsed line `prec` -/
def recOf (m : Mode) (n : Nat) (prec : Record) : Record :=
  { prec.withMode m with errors := stamp n prec.errors }

theorem recOf_withMode (m m' : Mode) (n : Nat) (prec : Record) :
    (recOf m n prec).withMode m' = recOf m' n prec := rfl

theorem recOf_dict (m : Mode) (n : Nat) (prec : Record) : (recOf m n prec).dict = prec.dict := rfl

/-- the reader after `__next__` has returned the record of the parsed line `prec` -/
def stepOf (r : Reader) (prec : Record) (lg : List LogRec) : Reader :=
  ({ r with errors := r.errors ++ stamp r.lineNo prec.errors, logs := r.logs ++ lg } : Reader).advance

@[simp] theorem stepOf_scheme (r : Reader) (prec : Record) (lg : List LogRec) :
    (stepOf r prec lg).scheme = r.scheme := by simp [stepOf]

@[simp] theorem stepOf_mode (r : Reader) (prec : Record) (lg : List LogRec) :
    (stepOf r prec lg).mode = r.mode := by simp [stepOf]

@[simp] theorem stepOf_errors (r : Reader) (prec : Record) (lg : List LogRec) :
    (stepOf r prec lg).errors = r.errors ++ stamp r.lineNo prec.errors := by simp [stepOf]

theorem At.stepOf {lines : List Text} {r : Reader} {p : Nat} (h : At lines r p) (prec : Record)
    (lg : List LogRec) : At lines (stepOf r prec lg) (p + 1) := by
  have ha := h.advance
  exact ⟨by simpa [Model.stepOf] using ha.pulled, by simpa [Model.stepOf] using ha.src,
    by simpa [Model.stepOf, advance_lineNo] using ha.lineNo, by simpa [Model.stepOf] using ha.next⟩

theorem nextRecord_none {C : Ctx} {r : Reader} (h : r.next = none) : r.nextRecord C = .ok none := by
  unfold Reader.nextRecord; rw [h]

/-- `__next__` = the stringency-independent parse of the look-ahead line, `processErrors` on the
    record's errors, then one pull -/
theorem nextRecord_some {C : Ctx} {r : Reader} {l : Text} (h : r.next = some l) :
    r.nextRecord C =
      match parsedLine C l none r.scheme (some r.lineNo) with
      | .error e => .error e
      | .ok prec =>
        match processErrors r.mode prec.errors with
        | .error e => .error e
        | .ok lg => .ok (some (recOf r.mode r.lineNo prec, stepOf r prec lg)) := by
  unfold Reader.nextRecord
  split
  · rename_i h'; cases h.symm.trans h'
  · rename_i l' h'
    cases h.symm.trans h'
    rw [fromLine_spec]
    cases parsedLine C l none r.scheme (some r.lineNo) with
    | error e => rfl
    | ok prec =>
      simp only [modeOrSilent]
      cases processErrors r.mode prec.errors with
      | error e => rfl
      | ok lg => rfl

theorem nextRecord_ok {C : Ctx} {r : Reader} {rec : Record} {r' : Reader}
    (h : r.nextRecord C = .ok (some (rec, r'))) :
    ∃ l prec lg, r.next = some l ∧ parsedLine C l none r.scheme (some r.lineNo) = .ok prec ∧
      processErrors r.mode prec.errors = .ok lg ∧ rec = recOf r.mode r.lineNo prec ∧ r' = stepOf r prec lg := by
  cases hn : r.next with
  | none => rw [nextRecord_none hn] at h; cases h
  | some l =>
    rw [nextRecord_some hn] at h
    repeat' split at h
    all_goals cases h
    exact ⟨l, _, _, rfl, ‹_›, ‹_›, rfl, rfl⟩

/-- `StopIteration` is answered only at the end of the input -/
theorem nextRecord_ok_none {C : Ctx} {r : Reader} (h : r.nextRecord C = .ok none) : r.next = none := by
  cases hn : r.next with
  | none => rfl
  | some l =>
    rw [nextRecord_some hn] at h
    repeat' split at h
    all_goals cases h

/-- the lines the iteration still has to go through -/
def pending (r : Reader) : List Text :=
  match r.next with
  | none => []
  | some l => l :: r.src.map rstripCRLF

theorem pending_advance (r : Reader) : pending r.advance = r.src.map rstripCRLF := by
  unfold pending
  rw [advance_next, advance_src]
  cases r.src <;> rfl

theorem At.pending {lines : List Text} {r : Reader} {p : Nat} (h : At lines r p) :
    pending r = (stripped lines).drop p := by
  unfold Model.pending
  rw [h.next, h.src]
  by_cases hp : p < lines.length
  · rw [List.getElem?_eq_getElem (by simpa using hp), List.drop_eq_getElem_cons (i := p) (by simpa using hp)]
    simp [stripped]
  · rw [List.getElem?_eq_none (by simpa using hp)]
    simp
    omega

theorem At.fuel {lines : List Text} {r : Reader} {p : Nat} (h : At lines r p) :
    (Model.pending r).length < r.src.length + 2 := by
  rw [h.pending, h.src]; simp; omega

theorem nextRecord_ok_pending {C : Ctx} {r : Reader} {rec : Record} {r' : Reader}
    (h : r.nextRecord C = .ok (some (rec, r'))) : (pending r').length + 1 = (pending r).length := by
  obtain ⟨l, prec, lg, hn, _, _, _, rfl⟩ := nextRecord_ok h
  rw [stepOf, pending_advance]
  simp [pending, hn]

theorem iterate_step {C : Ctx} {K : HConsts} {r r' : Reader} {chk chk' : Checker} {rec : Record}
    (hn : r.nextRecord C = .ok (some (rec, r'))) (ha : chk.addRecord rec = .ok chk')
    (fuel : Nat) (acc : List Record) :
    Reader.iterate C K (fuel + 1) r chk acc = Reader.iterate C K fuel r' chk' (acc ++ [rec]) := by
  rw [Reader.iterate]
  simp only [hn, ha]

/-- **invariant reasoning over the iteration**: `P` holds of every state the loop reaches, `Q` of
    the result, whichever way the loop ends; the fuel `readAll` provides is enough -/
theorem iterate_induction {C : Ctx} {K : HConsts}
    {P : Reader → Checker → List Record → Prop} {Q : List Record × Option PyErr × Reader → Prop}
    (hstop : ∀ r chk acc, P r chk acc → r.next = none → Q (acc, none, r))
    (herr1 : ∀ r chk acc e, P r chk acc → r.nextRecord C = .error e → Q (acc, some e, r))
    (herr2 : ∀ r chk acc rec r' e, P r chk acc → r.nextRecord C = .ok (some (rec, r')) →
      chk.addRecord rec = .error e → Q (acc, some e, r'))
    (hstep : ∀ r chk acc rec r' chk', P r chk acc → r.nextRecord C = .ok (some (rec, r')) →
      chk.addRecord rec = .ok chk' → P r' chk' (acc ++ [rec])) :
    ∀ (fuel : Nat) (r : Reader) (chk : Checker) (acc : List Record),
      (pending r).length < fuel → P r chk acc → ∀ res, Reader.iterate C K fuel r chk acc = res → Q res := by
  intro fuel
  induction fuel with
  | zero => intro r chk acc h; omega
  | succ fuel ih =>
    rintro r chk acc hf hP _ rfl
    unfold Reader.iterate
    cases hnr : r.nextRecord C with
    | error e => exact herr1 r chk acc e hP hnr
    | ok o =>
      cases o with
      | none => exact hstop r chk acc hP (nextRecord_ok_none hnr)
      | some p =>
        obtain ⟨rec, r'⟩ := p
        simp only []
        cases hadd : chk.addRecord rec with
        | error e => exact herr2 r chk acc rec r' e hP hnr hadd
        | ok chk' =>
          exact ih r' chk' (acc ++ [rec]) (by have := nextRecord_ok_pending hnr; omega)
            (hstep r chk acc rec r' chk' hP hnr hadd) _ rfl

/-! ### which exceptions the order checker raises -/

/-- `checker.add(record)` is `checker.add` on the record's key fields — except that for a sortable
    order a record without its three coordinate columns is skipped, or refused when there is a
    contig list that does not hold its chromosome -/
theorem Checker.addRecord_cases (c : Checker) (rec : Record) :
    c.addRecord rec = c.add rec.toLoc ∨
    (c.order.sortable = true ∧ rec.toLoc.hasCoords = false ∧
      (c.addRecord rec = .ok c ∨ (c.addRecord rec = .error .value ∧ c.contigs ≠ []))) := by
  unfold Checker.addRecord
  simp only []
  split
  · exact .inl rfl
  · rename_i hcond
    obtain ⟨hs, hc⟩ : c.order.sortable = true ∧ rec.toLoc.hasCoords = false := by simpa using hcond
    refine .inr ⟨hs, hc, ?_⟩
    repeat' split
    · exact .inl rfl
    · exact .inr ⟨rfl, (mkKey_valueError_iff.1 ‹_›).2.1⟩
    · exact .inl rfl

theorem wf_of_mkKey_ok {o : Order} {cs : List Text} {l : Loc} {k : Key} (h : mkKey o cs l = .ok k)
    (ht : l.tumor.isNS = true) (hn : l.normal.isNS = true) : l.WF := by
  have hc := hasCoords_of_mkKey_ok h
  rw [mkKey_unfold hc] at h
  cases h1 : chrStep cs (chrText l.chr) with
  | error e1 => rw [h1] at h; cases h
  | ok c =>
    cases h2 : posInt l.start with
    | error e2 => rw [h1, h2] at h; cases h
    | ok s =>
      cases h3 : posInt l.stop with
      | error e3 => rw [h1, h2, h3] at h; cases h
      | ok t => exact ⟨hc, ht, hn, posOk_of_posInt_ok h2, posOk_of_posInt_ok h3⟩

/-- textual (or absent) barcodes -/
def Loc.BarcodesNS (l : Loc) : Prop := l.tumor.isNS = true ∧ l.normal.isNS = true

/-- what the checker remembers can be keyed (sortable orders) and has textual barcodes -/
def Checker.OK (c : Checker) : Prop :=
  c.order.sortable = true → ∀ l, c.last = some l → l.BarcodesNS ∧ ∃ lk, mkKey c.order c.contigs l = .ok lk

/-- `checker.add` raises only `ValueError`, and only for a sortable order, when the records it
    sees have textual barcodes: their keys then always compare -/
theorem Checker.add_kinds {c : Checker} {l : Loc} (hc : c.OK) (hl : c.order.sortable = false ∨ l.BarcodesNS) :
    (∀ e, c.add l = .error e → c.order.sortable = true ∧ e = .value) ∧
    (∀ c', c.add l = .ok c' → c'.OK) := by
  cases hs : c.order.sortable with
  | false =>
    rw [add_unsortable l hs]
    exact ⟨fun e h => (by cases h), fun c' h => by cases h; exact fun h' => by simp [hs] at h'⟩
  | true =>
    have hl : l.BarcodesNS := hl.resolve_left (by simp [hs])
    unfold Checker.add
    simp only [hs, Bool.not_true, Bool.false_eq_true, if_false]
    cases hk : mkKey c.order c.contigs l with
    | error e =>
      rcases mkKey_error_kind hk with rfl | rfl
      · exact ⟨fun e h => (by cases h), fun c' h => by cases h; exact hc⟩
      · exact ⟨fun e h => (by cases h; exact ⟨trivial, rfl⟩), fun c' h => by cases h⟩
    | ok k =>
      simp only []
      have hnew : ({ c with last := some l } : Checker).OK := fun _ l' hl' => by
        cases hl'; exact ⟨hl, k, hk⟩
      cases hlast : c.last with
      | none => exact ⟨fun e h => (by cases h), fun c' h => by cases h; exact hnew⟩
      | some l0 =>
        simp only []
        obtain ⟨hl0, lk, hlk⟩ := hc hs l0 hlast
        rw [hlk]
        simp only []
        have hcompat := (mkKey_inv (wf_of_mkKey_ok hk hl.1 hl.2) hk).compat
          (mkKey_inv (wf_of_mkKey_ok hlk hl0.1 hl0.2) hlk)
        rw [(ops_of_cmpKey (cmpKey_eq_cmp hcompat)).1]
        cases decide (Key.cmp k lk < 0) with
        | true => exact ⟨fun e h => (by cases h; exact ⟨trivial, rfl⟩), fun c' h => by cases h⟩
        | false => exact ⟨fun e h => (by cases h), fun c' h => by cases h; exact hnew⟩

theorem Checker.addRecord_kinds {c : Checker} {rec : Record} (hc : c.OK)
    (hl : c.order.sortable = false ∨ rec.toLoc.BarcodesNS) :
    (∀ e, c.addRecord rec = .error e → c.order.sortable = true ∧ e = .value) ∧
    (∀ c', c.addRecord rec = .ok c' → c'.OK) := by
  rcases c.addRecord_cases rec with h | ⟨hs, _, h | ⟨h, _⟩⟩ <;> rw [h]
  · exact Checker.add_kinds hc hl
  · exact ⟨fun e h => (by cases h), fun c' h => by cases h; exact hc⟩
  · exact ⟨fun e h => (by cases h; exact ⟨hs, rfl⟩), fun c' h => by cases h⟩

theorem Checker.addRecord_order_contigs {c c' : Checker} {rec : Record} (h : c.addRecord rec = .ok c') :
    c'.order = c.order ∧ c'.contigs = c.contigs := by
  rcases c.addRecord_cases rec with h' | ⟨_, _, h' | ⟨h', _⟩⟩ <;> rw [h'] at h
  · exact add_order_contigs h
  · cases h; exact ⟨rfl, rfl⟩
  · cases h

theorem Loc.keyable_of_unkeyable {o : Order} {cs : List Text} {l : Loc} (h : l.unkeyable o cs = true) :
    l.keyable o cs = false := by
  unfold Loc.keyable; rw [Loc.unkeyable_iff.1 h]

theorem Checker.addRecord_ok_sortable {c c' : Checker} {rec : Record} (hs : c.order.sortable = true)
    (h : c.addRecord rec = .ok c') :
    c'.last = if rec.toLoc.keyable c.order c.contigs then some rec.toLoc else c.last := by
  rcases c.addRecord_cases rec with h' | ⟨_, hc, h' | ⟨h', _⟩⟩ <;> rw [h'] at h
  · rcases add_ok_sortable hs h with ⟨hk, rfl⟩ | ⟨hu, rfl⟩
    · simp [hk]
    · simp [Loc.keyable_of_unkeyable hu]
  · cases h; simp [Loc.keyable_of_unkeyable (Loc.unkeyable_of_no_coords hc)]
  · cases h

theorem Checker.LastKeyed.addRecord {c c' : Checker} {rec : Record} (hc : c.LastKeyed)
    (h : c.addRecord rec = .ok c') : c'.LastKeyed := by
  rcases c.addRecord_cases rec with h' | ⟨_, _, h' | ⟨h', _⟩⟩ <;> rw [h'] at h
  · exact hc.add h
  · cases h; exact hc
  · cases h

/-- **why `checker.add(record)` raises `ValueError`** on a parsed record: the order is sortable and
    either there is a contig list that does not contain the record's chromosome, or the record
    (which then has its coordinate columns and readable positions) is out of order -/
theorem Checker.addRecord_valueError_cause {c : Checker} {rec : Record} (hc : c.LastKeyed)
    (h : c.addRecord rec = .error .value) :
    c.order.sortable = true ∧
    ((c.contigs ≠ [] ∧
        (rec.toLoc.hasCoords = true → ∀ s, rec.toLoc.chrName = some s → s ∉ c.contigs)) ∨
      (rec.toLoc.hasCoords = true ∧ c.OutOfOrder rec.toLoc)) := by
  rcases c.addRecord_cases rec with h' | ⟨hs, hco, h' | ⟨_, hne⟩⟩
  · obtain ⟨hs, hm | ho⟩ := (Checker.add_valueError_iff hc).1 (h' ▸ h)
    · exact ⟨hs, .inl ⟨hm.2.1, fun _ => hm.2.2⟩⟩
    · exact ⟨hs, .inr ⟨ho.posOk.1, ho⟩⟩
  · rw [h'] at h; cases h
  · exact ⟨hs, .inl ⟨hne, fun h' => by rw [hco] at h'; cases h'⟩⟩

/-- a record that has its coordinate columns and a keyable chromosome, but a start or end position
    that is a text `int()` cannot read, is skipped: the checker is unchanged -/
theorem Checker.addRecord_bad_position {c : Checker} {rec : Record}
    (hs : c.order.sortable = true) (h0 : rec.toLoc.hasCoords = true)
    (hchr : rec.toLoc.chrOk c.contigs)
    (hp : rec.toLoc.start.posOk = false ∨ rec.toLoc.stop.posOk = false) :
    c.addRecord rec = .ok c := by
  unfold Checker.addRecord
  simp only [h0, Bool.or_true, if_true]
  exact add_skip_unkeyable hs (mkKey_bad_position h0 hchr hp)

/-! ### the whole-file reading, line by line -/

/-- the record the reader returns for the data line `l` read as physical line `n`:
    `from_line`'s record, its errors stamped with the ghost origin -/
def recordOf (C : Ctx) (sch : Option Scheme) (m : Mode) (n : Nat) (l : Text) : Option Record :=
  match Record.fromLine C l none sch (some n) (some m) with
  | .ok (rec, _) => some { rec with errors := stamp n rec.errors }
  | .error _ => none

/-- the errors the reader collects for the data line `l` read as physical line `n`
    (`from_line`'s collected errors, stamped with the ghost origin) -/
def recordErrors (C : Ctx) (sch : Option Scheme) (m : Mode) (n : Nat) (l : Text) : List VErr :=
  match Record.fromLine C l none sch (some n) (some m) with
  | .ok (rec, _) => stamp n rec.errors
  | .error _ => []

theorem recordOf_eq_some {C : Ctx} {sch : Option Scheme} {m : Mode} {n : Nat} {l : Text} {rec : Record} :
    recordOf C sch m n l = some rec ↔ ∃ prec lg, parsedLine C l none sch (some n) = .ok prec ∧
      processErrors m prec.errors = .ok lg ∧ rec = recOf m n prec := by
  unfold recordOf
  constructor
  · intro h
    split at h
    · obtain ⟨prec, hp, hpe, rfl⟩ := fromLine_ok ‹_›
      cases h
      exact ⟨prec, _, hp, hpe, rfl⟩
    · cases h
  · rintro ⟨prec, lg, hp, hpe, rfl⟩
    rw [fromLine_spec, hp]
    simp only [modeOrSilent, hpe]
    rfl

theorem recordErrors_eq (C : Ctx) (sch : Option Scheme) (m : Mode) (n : Nat) (l : Text) :
    recordErrors C sch m n l = ((recordOf C sch m n l).map (·.errors)).getD [] := by
  unfold recordErrors recordOf
  split <;> simp_all

/-- the errors of the first `j` lines of `D`, line `i` (0-based) contributing `f i D[i]` -/
def errsUpTo (f : Nat → Text → List VErr) (D : List Text) (j : Nat) : List VErr :=
  (D.take j).zipIdx.flatMap (fun p => f p.2 p.1)

theorem zipIdx_take_succ {α} (D : List α) (j : Nat) (hj : j < D.length) :
    (D.take (j + 1)).zipIdx = (D.take j).zipIdx ++ [(D[j], j)] := by
  rw [List.take_succ_eq_append_getElem hj, List.zipIdx_append]
  simp [List.length_take, Nat.min_eq_left (Nat.le_of_lt hj)]

theorem errsUpTo_succ (f : Nat → Text → List VErr) (D : List Text) (j : Nat) (hj : j < D.length) :
    errsUpTo f D (j + 1) = errsUpTo f D j ++ f j D[j] := by
  simp [errsUpTo, zipIdx_take_succ D j hj]

theorem errsUpTo_all (f : Nat → Text → List VErr) (D : List Text) :
    errsUpTo f D D.length = D.zipIdx.flatMap (fun p => f p.2 p.1) := by
  simp [errsUpTo]

theorem mem_errsUpTo {f : Nat → Text → List VErr} {D : List Text} {j : Nat} {e : VErr}
    (he : e ∈ errsUpTo f D j) : ∃ i, ∃ hi : i < D.length, i < j ∧ e ∈ f i D[i] := by
  obtain ⟨p, hp, hep⟩ := List.mem_flatMap.1 he
  have := List.mem_zipIdx_iff_getElem?.1 (show (p.1, p.2) ∈ (D.take j).zipIdx from hp)
  rw [List.getElem?_take] at this
  split at this
  · obtain ⟨hi, hget⟩ := List.getElem?_eq_some_iff.1 this
    exact ⟨p.2, hi, ‹_›, hget ▸ hep⟩
  · cases this

theorem At.data_line {K : HConsts} {lines : List Text} {r : Reader} {j : Nat} {l : Text}
    (h : At lines r (min (headerLen K lines + 1) lines.length + j)) (hn : r.next = some l) :
    ∃ hj : j < (dataLines K lines).length, (dataLines K lines)[j] = l ∧
      r.lineNo = headerLen K lines + 2 + j ∧ headerLen K lines + 1 + j < lines.length := by
  obtain ⟨hlt, hget⟩ := List.getElem?_eq_some_iff.1 (h.next.symm.trans hn)
  simp only [stripped_length] at hlt
  have hp0 : min (headerLen K lines + 1) lines.length = headerLen K lines + 1 := by omega
  rw [hp0] at hlt
  refine ⟨by simp [dataLines]; omega, ?_, by rw [h.lineNo, hp0]; omega, hlt⟩
  simp only [dataLines, List.getElem_drop, ← hget, hp0]

theorem At.data_end {K : HConsts} {lines : List Text} {r : Reader} {j : Nat}
    (h : At lines r (min (headerLen K lines + 1) lines.length + j)) (hn : r.next = none)
    (hj : j ≤ (dataLines K lines).length) : j = (dataLines K lines).length := by
  have h1 := h.next_none_iff.1 hn
  simp [dataLines] at hj ⊢
  omega

/-- the state of the whole-file reading after `j` data lines -/
structure ReadState (C : Ctx) (K : HConsts) (lines : List Text) (sch : Option Scheme) (m : Mode)
    (base : List VErr) (r : Reader) (j : Nat) : Prop where
  pos : At lines r (min (headerLen K lines + 1) lines.length + j)
  le : j ≤ (dataLines K lines).length
  scheme : r.scheme = sch
  mode : r.mode = m
  errors : r.errors = base ++
    errsUpTo (fun i l => recordErrors C sch m (headerLen K lines + 2 + i) l) (dataLines K lines) j

theorem ReadState.step {C : Ctx} {K : HConsts} {lines : List Text} {sch : Option Scheme} {m : Mode}
    {base : List VErr} {r : Reader} {j : Nat} (h : ReadState C K lines sch m base r j)
    {rec : Record} {r' : Reader} (hn : r.nextRecord C = .ok (some (rec, r'))) :
    ReadState C K lines sch m base r' (j + 1) ∧ ∃ hj : j < (dataLines K lines).length,
      recordOf C sch m (headerLen K lines + 2 + j) (dataLines K lines)[j] = some rec := by
  obtain ⟨l, prec, lg, hnext, hp, hpe, rfl, rfl⟩ := nextRecord_ok hn
  obtain ⟨hj, hget, hln, _⟩ := h.pos.data_line hnext
  have hrec : recordOf C sch m (headerLen K lines + 2 + j) (dataLines K lines)[j] = some (recOf r.mode r.lineNo prec) := by
    rw [hget, ← hln, ← h.scheme, ← h.mode]
    exact recordOf_eq_some.2 ⟨prec, lg, hp, hpe, rfl⟩
  refine ⟨⟨Nat.add_assoc .. ▸ h.pos.stepOf prec lg, hj, (stepOf_scheme ..).trans h.scheme,
    (stepOf_mode ..).trans h.mode, ?_⟩, hj, hrec⟩
  · rw [errsUpTo_succ _ _ _ hj, recordErrors_eq, hrec, ← List.append_assoc, ← h.errors]
    simp [recOf]

/-- **the whole-file reading, whichever way it ends** with `res = (records, exception, reader)`:
    it has gone through `j` data lines, where `j` is the number of records returned — plus one when
    the order checker stopped the iteration — has collected exactly the errors of those lines, in
    file order, and the records returned are those of the data lines, in order -/
structure ReadResult (C : Ctx) (K : HConsts) (lines : List Text) (sch : Option Scheme) (m : Mode)
    (base : List VErr) (res : List Record × Option PyErr × Reader) (j : Nat) : Prop where
  state : ReadState C K lines sch m base res.2.2 j
  length_le : res.1.length ≤ j
  le_length_succ : j ≤ res.1.length + 1
  complete : res.2.1 = none →
    j = (dataLines K lines).length ∧ res.1.length = (dataLines K lines).length
  records : res.1.map some = ((dataLines K lines).take res.1.length).zipIdx.map
    (fun p => recordOf C sch m (headerLen K lines + 2 + p.2) p.1)

theorem iterate_spec {C : Ctx} {K : HConsts} {lines : List Text} {sch : Option Scheme} {m : Mode}
    {base : List VErr} (fuel : Nat) (r : Reader) (chk : Checker) (acc : List Record)
    (hf : (pending r).length < fuel) (h : ReadState C K lines sch m base r acc.length)
    (hacc : acc.map some = ((dataLines K lines).take acc.length).zipIdx.map
      (fun p => recordOf C sch m (headerLen K lines + 2 + p.2) p.1)) :
    ∀ res, Reader.iterate C K fuel r chk acc = res → ∃ j, ReadResult C K lines sch m base res j := by
  refine iterate_induction (C := C) (K := K)
    (P := fun r _ acc => ReadState C K lines sch m base r acc.length ∧
      acc.map some = ((dataLines K lines).take acc.length).zipIdx.map
        (fun p => recordOf C sch m (headerLen K lines + 2 + p.2) p.1))
    ?_ ?_ ?_ ?_ fuel r chk acc hf ⟨h, hacc⟩
  · intro r chk acc hP hn
    have := hP.1.pos.data_end hn hP.1.le
    exact ⟨acc.length, hP.1, Nat.le_refl _, Nat.le_succ _, fun _ => ⟨this, this⟩, hP.2⟩
  · intro r chk acc e hP _
    exact ⟨acc.length, hP.1, Nat.le_refl _, Nat.le_succ _, nofun, hP.2⟩
  · intro r chk acc rec r' e hP hn _
    exact ⟨acc.length + 1, (hP.1.step hn).1, Nat.le_succ _, Nat.le_refl _, nofun, hP.2⟩
  · intro r chk acc rec r' chk' hP hn _
    obtain ⟨hst, hj, hrec⟩ := hP.1.step hn
    exact ⟨by simpa using hst, by simp [zipIdx_take_succ _ _ hj, hP.2, hrec]⟩

/-- `readAll` from the state `init` leaves: see `ReadResult` -/
theorem readAll_spec {C : Ctx} {K : HConsts} {lines : List Text} {r : Reader}
    (hat : At lines r (min (headerLen K lines + 1) lines.length))
    {res : List Record × Option PyErr × Reader} (hres : r.readAll C K = res) :
    ∃ j, ReadResult C K lines r.scheme r.mode r.errors res j :=
  iterate_spec _ r _ [] hat.fuel ⟨hat, Nat.zero_le _, rfl, rfl, by simp [errsUpTo]⟩ rfl res hres

/-- **fuel sufficiency**: `readAll` never stops for lack of fuel — when it ends without an
    exception, the input is exhausted -/
theorem readAll_reads_to_end {C : Ctx} {K : HConsts} {lines : List Text} {r : Reader} {p : Nat}
    (hat : At lines r p) : (r.readAll C K).2.1 = none → (r.readAll C K).2.2.next = none :=
  iterate_induction (C := C) (K := K) (P := fun _ _ _ => True)
    (Q := fun res => res.2.1 = none → res.2.2.next = none)
    (fun _ _ _ _ hn _ => hn) (fun _ _ _ _ _ _ => nofun) (fun _ _ _ _ _ _ _ _ _ => nofun)
    (fun _ _ _ _ _ _ _ _ _ => trivial) _ r _ [] hat.fuel trivial _ rfl

/-! ### line numbers of the reader's errors -/

/-- **line numbers of record errors, as the reader collects them**: every error of the data line
    read as physical line `n` carries line number `n` (and ghost origin `n`) -/
theorem recordErrors_lines {C : Ctx} {sch : Option Scheme} {m : Mode} {n : Nat} {l : Text} {e : VErr}
    (he : e ∈ recordErrors C sch m n l) : e.origin = some n ∧ e.line = some n := by
  rw [recordErrors_eq] at he
  cases hr : recordOf C sch m n l with
  | none => rw [hr] at he; cases he
  | some rec =>
    obtain ⟨prec, _, hp, _, rfl⟩ := recordOf_eq_some.1 hr
    rw [hr] at he
    obtain ⟨e', he', rfl⟩ := mem_stamp.1 he
    exact ⟨rfl, (parsedLine_lines_all hp).2 e' he'⟩

theorem initE1_lines {hs given : Option Scheme} {e : VErr} (he : e ∈ initE1 hs given) :
    e.line = none ∧ e.tpe = "HEADER_MISMATCH_SCHEME" := by
  unfold initE1 at he
  repeat' split at he
  all_goals first | exact List.eq_of_mem_singleton he ▸ ⟨rfl, rfl⟩ | cases he

theorem initE2_lines {cn : Option (List Text)} {sch : Option Scheme} {k : Nat} {e : VErr}
    (he : e ∈ initE2 cn sch k) : e.line = some (k + 1) ∧ e.origin = some (k + 1) := by
  unfold initE2 at he
  split at he
  · simp only [] at he
    split at he
    · exact List.eq_of_mem_singleton he ▸ ⟨rfl, rfl⟩
    · obtain ⟨p, _, hp⟩ := List.mem_filterMap.1 he
      split at hp <;> cases hp
      exact ⟨rfl, rfl⟩
  · cases he
  · exact List.eq_of_mem_singleton he ▸ ⟨rfl, rfl⟩

theorem initE2_missing (sch : Option Scheme) (k : Nat) :
    initE2 none sch k = [{ tpe := "HEADER_MISSING_COLUMN_NAMES", line := some (k + 1), origin := some (k + 1) }] := by
  unfold initE2; rfl

/-! ### which exceptions the whole-file reading raises -/

/-- the kind invariant the order checker relies on: every record `from_line` can produce under the
    scheme has textual (or absent) barcodes -/
def BarcodesTextual (C : Ctx) (sch : Option Scheme) : Prop :=
  ∀ l n rec, parsedLine C l none sch n = .ok rec → rec.toLoc.BarcodesNS

/-- the reader has a scheme with pairwise distinct column names — or nothing left to read -/
def Reader.SchemeInv (r : Reader) : Prop :=
  (∃ s, r.scheme = some s ∧ s.names.Nodup) ∨ (r.next = none ∧ r.src = [])

theorem Reader.SchemeInv.parsed {r : Reader} (hinv : r.SchemeInv) {l : Text} (hn : r.next = some l) (C : Ctx) :
    ∃ prec, parsedLine C l none r.scheme (some r.lineNo) = .ok prec := by
  rcases hinv with ⟨s, hs', hnd⟩ | ⟨hnone, _⟩
  · exact parsedLine_ok_of_nodup C l (some r.lineNo) (by rw [hs']; exact lineNames_scheme s) (names_toList_nodup hnd)
  · rw [hn] at hnone; cases hnone

/-- the reader's `__next__` raises nothing but the Strict-mode `MafFormatException` (scheme with
    pairwise distinct names) -/
theorem nextRecord_error_format {C : Ctx} {r : Reader} {e : PyErr} (hinv : r.SchemeInv)
    (hnr : r.nextRecord C = .error e) : r.mode = .strict ∧ ∃ t l, e = .format t l := by
  cases hn : r.next with
  | none => rw [nextRecord_none hn] at hnr; cases hnr
  | some l =>
    obtain ⟨prec, hp⟩ := hinv.parsed hn C
    rw [nextRecord_some hn, hp] at hnr
    simp only [] at hnr
    split at hnr
    · cases hnr
      obtain ⟨hm, x, xs, _, rfl⟩ := processErrors_error ‹_›
      exact ⟨hm, _, _, rfl⟩
    · cases hnr

theorem nextRecord_schemeInv {C : Ctx} {r r' : Reader} {rec : Record} (hinv : r.SchemeInv)
    (hnr : r.nextRecord C = .ok (some (rec, r'))) : r'.SchemeInv := by
  obtain ⟨l, prec, lg, hnext, _, _, _, rfl⟩ := nextRecord_ok hnr
  rcases hinv with ⟨s, hs', hnd⟩ | ⟨hnone, _⟩
  · exact .inl ⟨s, (stepOf_scheme ..).trans hs', hnd⟩
  · rw [hnext] at hnone; cases hnone

/-- **the exceptions of the iteration**: a `MafFormatException` in Strict mode, or the order
    checker's `ValueError` for a sortable order — nothing else -/
theorem iterate_kinds {C : Ctx} {K : HConsts} (fuel : Nat) (r : Reader) (chk : Checker) (acc : List Record)
    (hf : (pending r).length < fuel) (hs : r.SchemeInv)
    (hk : chk.order.sortable = false ∨ BarcodesTextual C r.scheme) (hc : chk.OK) :
    ∀ res, Reader.iterate C K fuel r chk acc = res → ∀ e, res.2.1 = some e →
      (r.mode = .strict ∧ ∃ t l, e = .format t l) ∨ (chk.order.sortable = true ∧ e = .value) := by
  refine iterate_induction (C := C) (K := K)
    (P := fun r' chk' _ => r'.scheme = r.scheme ∧ r'.mode = r.mode ∧ r'.SchemeInv ∧
      chk'.order = chk.order ∧ chk'.OK)
    (fun _ _ _ _ _ _ => nofun) ?_ ?_ ?_ fuel r chk acc hf ⟨rfl, rfl, hs, rfl, hc⟩
  · rintro r' chk' acc' e ⟨_, hmode, hinv, _, _⟩ hnr _ ⟨⟩
    exact .inl (hmode ▸ nextRecord_error_format hinv hnr)
  all_goals
    intro r' chk' acc' rec r''
    -- what the checker is asked to add has textual barcodes, or the order is not sortable
    have hb : ∀ {chk' : Checker}, r'.scheme = r.scheme → chk'.order = chk.order →
        r'.nextRecord C = .ok (some (rec, r'')) → chk'.order.sortable = false ∨ rec.toLoc.BarcodesNS := by
      intro chk' hsch hord hnr
      obtain ⟨l, prec, _, _, hp, _, rfl, _⟩ := nextRecord_ok hnr
      exact hk.imp (hord ▸ ·) fun hk => hk l _ prec (hsch ▸ hp)
  · rintro e ⟨hsch, _, _, hord, hok⟩ hnr hadd _ ⟨⟩
    exact .inr (hord ▸ (Checker.addRecord_kinds hok (hb hsch hord hnr)).1 e hadd)
  · rintro chk'' ⟨hsch, hmode, hinv, hord, hok⟩ hnr hadd
    obtain ⟨_, _, _, _, _, _, _, hr''⟩ := nextRecord_ok hnr
    exact ⟨by simp [hr'', hsch], by simp [hr'', hmode], nextRecord_schemeInv hinv hnr,
      (Checker.addRecord_order_contigs hadd).1.trans hord,
      (Checker.addRecord_kinds hok (hb hsch hord hnr)).2 chk'' hadd⟩

/-- **the `ValueError` of the iteration comes from the order checker**, on the record just parsed,
    with a checker that has the declared order and contig list and remembers the last of the
    yielded records that could be keyed -/
theorem iterate_valueError_source {C : Ctx} {K : HConsts} (fuel : Nat) (r : Reader) (chk : Checker)
    (acc : List Record) (hf : (pending r).length < fuel) (hs : r.SchemeInv) (hc : chk.LastKeyed)
    (hlast : chk.order.sortable = true →
      chk.last = lastKeyed chk.order chk.contigs (acc.map Record.toLoc)) :
    ∀ res, Reader.iterate C K fuel r chk acc = res → res.2.1 = some .value →
      ∃ (r0 : Reader) (rec : Record) (chk0 : Checker),
        r0.nextRecord C = .ok (some (rec, res.2.2)) ∧
        chk0.order = chk.order ∧ chk0.contigs = chk.contigs ∧ chk0.LastKeyed ∧
        (chk.order.sortable = true → chk0.last = lastKeyed chk.order chk.contigs (res.1.map Record.toLoc)) ∧
        chk0.addRecord rec = .error .value := by
  refine iterate_induction (C := C) (K := K)
    (P := fun r' chk' acc' => r'.SchemeInv ∧ chk'.order = chk.order ∧ chk'.contigs = chk.contigs ∧
      chk'.LastKeyed ∧ (chk.order.sortable = true →
        chk'.last = lastKeyed chk.order chk.contigs (acc'.map Record.toLoc)))
    (fun _ _ _ _ _ => nofun) ?_ ?_ ?_ fuel r chk acc hf ⟨hs, rfl, rfl, hc, hlast⟩
  · rintro r' chk' acc' e ⟨hinv, _⟩ hnr ⟨⟩
    obtain ⟨_, t, l, h⟩ := nextRecord_error_format hinv hnr
    cases h
  · rintro r' chk' acc' rec r'' e ⟨_, hord, hcs, hlk, hl⟩ hnr hadd ⟨⟩
    exact ⟨r', rec, chk', hnr, hord, hcs, hlk, hl, hadd⟩
  · intro r' chk' acc' rec r'' chk'' ⟨hinv, hord, hcs, hlk, hl⟩ hnr hadd
    obtain ⟨ho, hc'⟩ := Checker.addRecord_order_contigs hadd
    refine ⟨nextRecord_schemeInv hinv hnr, ho.trans hord, hc'.trans hcs, hlk.addRecord hadd, ?_⟩
    intro hsort
    rw [Checker.addRecord_ok_sortable (by rw [hord]; exact hsort) hadd, List.map_append,
      List.map_singleton, lastKeyed_append_singleton, hord, hcs, hl hsort]

theorem findSchemeClass_mem {all : List Scheme} {v a : Option String} {s : Scheme}
    (h : findSchemeClass all v a = .ok (some s)) : s ∈ all := by
  unfold findSchemeClass at h
  simp only [] at h
  split at h
  · cases h
  all_goals (simp only [Except.ok.injEq] at h; exact List.mem_of_find?_eq_some h)

theorem Header.scheme_mem {K : HConsts} {R : Registry} {h : Header} {s : Scheme}
    (hs : h.scheme K R = some s) : s ∈ R.schemes := by
  unfold Header.scheme Registry.findScheme at hs
  split at hs
  · rename_i o ho
    split at ho
    · rename_i s' hf
      split at ho
      · cases ho; cases hs
      · cases ho; cases hs; exact findSchemeClass_mem hf
    · rename_i hne
      subst hs
      exact findSchemeClass_mem ho
  · cases hs

theorem schemeOf_nodup {K : HConsts} {R : Registry} {lines : List Text} {given : Option Scheme} {hd : Header}
    (hg : ∀ g, given = some g → g.names.Nodup) (hR : ∀ s ∈ R.schemes, s.names.Nodup)
    {names : List Text} (hc : colNamesOf K lines = some names) :
    ∃ s, schemeOf K R lines given hd = some s ∧ s.names.Nodup := by
  unfold schemeOf initSch2
  rw [hc]
  simp only []
  split
  · exact ⟨_, rfl, noRestrictionsScheme_names_nodup _⟩
  · rename_i hns
    unfold schemeless at hns
    cases hs1 : initSch1 (hd.scheme K R) given with
    | none => rw [hs1] at hns; simp at hns
    | some s =>
      refine ⟨s, rfl, ?_⟩
      unfold initSch1 at hs1
      split at hs1
      · cases hs1; exact hg _ rfl
      · exact hR s (Header.scheme_mem hs1)

theorem init_schemeInv {C : Ctx} {K : HConsts} {R : Registry} {lines : List Text} {mode : Option Mode}
    {given : Option Scheme} {r : Reader} (hinit : Reader.init C K R lines mode given = .ok r)
    (hg : ∀ g, given = some g → g.names.Nodup) (hR : ∀ s ∈ R.schemes, s.names.Nodup) : r.SchemeInv := by
  cases hc : colNamesOf K lines with
  | some names =>
    obtain ⟨lg, rfl⟩ := init_ok hinit
    exact .inl (schemeOf_nodup hg hR hc)
  | none =>
    have hat := init_at hinit
    have hlen : lines.length ≤ headerLen K lines := by simpa [colNamesOf] using hc
    exact .inr ⟨by rw [hat.next]; simp; omega, by rw [hat.src]; simp; omega⟩

/-! ### the kind invariant for schemes of plain text columns -/

/-- every column class of the scheme builds text values -/
def PlainScheme (C : Ctx) (s : Scheme) : Prop :=
  ∀ name cls, s.columnClass name = some cls →
    ∀ key t idx col, buildColumn C cls key t idx = .ok col → ∃ x, col.value = .atom (.str x)

/-- `MafColumnRecord` (if the class table has it) inherits no custom `build` -/
def PlainBase (C : Ctx) : Prop :=
  ∀ sp, resolveSpec C.tbl "MafColumnRecord" = some sp → sp.buildMethod = some "MafColumnRecord"

theorem tdictGet_mem {β} {d : List (Text × β)} {k : Text} {x : β} (h : tdictGet d k = some x) :
    ∃ p ∈ d, p.2 = x := by
  unfold tdictGet at h
  cases hf : List.find? (fun p => p.1 == k) d with
  | none => rw [hf] at h; cases h
  | some p =>
    rw [hf] at h
    simp only [Option.map_some, Option.some.injEq] at h
    exact ⟨p, List.mem_of_find?_eq_some hf, h⟩

theorem toLoc_barcodes_of_str {r : Record} (h : ∀ p ∈ r.dict, ∃ x, p.2.col.value = .atom (.str x)) :
    r.toLoc.BarcodesNS := by
  have key : ∀ n : String, KV.isNS ((((tdictGet r.dict n.toList).map (·.col.value)).map
      (fun v : PyVal => match v with
        | .atom (.int i) => KV.int i
        | .atom (.bool b) => KV.int (if b then 1 else 0)
        | .atom (.str s) => KV.str s
        | _ => KV.none)).getD KV.none) = true := by
    intro n
    cases hg : tdictGet r.dict n.toList with
    | none => rfl
    | some x =>
      obtain ⟨p, hp, rfl⟩ := tdictGet_mem hg
      obtain ⟨s, hs⟩ := h p hp
      simp [hs, KV.isNS]
  unfold Record.toLoc
  simp only []
  split
  · exact ⟨key "Tumor_Sample_Barcode", key "Matched_Norm_Sample_Barcode"⟩
  · exact ⟨rfl, rfl⟩

theorem barcodesTextual_of_plain {C : Ctx} {s : Scheme} (hnd : s.names.Nodup) (hp : PlainScheme C s) :
    BarcodesTextual C (some s) := by
  intro l n rec h
  obtain ⟨rec', h', hQ⟩ := parsedLine_nodup_dict C l n (lineNames_scheme s) (names_toList_nodup hnd)
    (fun c => ∃ x, c.col.value = .atom (.str x)) (by
      intro name value i col hb
      unfold buildField at hb
      split at hb
      · cases hb; exact ⟨value, rfl⟩
      · rename_i cls hcls
        split at hb
        · rename_i c hbc
          cases hb
          have : s.columnClass (String.ofList name) = some cls := by
            simp only [Option.filter] at hcls
            split at hcls
            · simpa using hcls
            · simp at hcls
          exact hp _ _ this _ _ _ _ hbc
        · cases hb)
  rw [h] at h'
  cases h'
  exact toLoc_barcodes_of_str hQ

theorem mem_dictSet {β} {d : List (String × β)} {k : String} {v : β} {q : String × β}
    (h : q ∈ dictSet d k v) : q ∈ d ∨ q = (k, v) := by
  unfold dictSet at h
  split at h
  · obtain ⟨p, hp, rfl⟩ := List.mem_map.1 h
    split
    · exact .inr rfl
    · exact .inl hp
  · rcases List.mem_append.1 h with h | h
    · exact .inl h
    · exact .inr (by simpa using h)

theorem mem_dictOfList {β} {l : List (String × β)} {q : String × β} (h : q ∈ dictOfList l) : q ∈ l := by
  unfold dictOfList at h
  suffices ∀ (d : List (String × β)), q ∈ l.foldl (fun d p => dictSet d p.1 p.2) d → q ∈ d ∨ q ∈ l by
    rcases this [] h with h | h
    · cases h
    · exact h
  clear h
  induction l with
  | nil => exact fun d h => .inl h
  | cons p l ih =>
    intro d h
    rcases ih _ h with h | h
    · rcases mem_dictSet h with h | h
      · exact .inl h
      · exact .inr (by rw [h]; exact List.mem_cons_self)
    · exact .inr (List.mem_cons_of_mem _ h)

theorem plainScheme_noRestrictions {C : Ctx} (hC : PlainBase C) (names : List String) :
    PlainScheme C (noRestrictionsScheme names) := by
  intro name cls hcls key t idx col hb
  have hcls' : cls = "MafColumnRecord" := by
    unfold Scheme.columnClass at hcls
    cases hf : List.find? (fun p => p.1 == name) (noRestrictionsScheme names).cols with
    | none => rw [hf] at hcls; cases hcls
    | some p =>
      rw [hf] at hcls
      simp only [Option.map_some, Option.some.injEq] at hcls
      have := mem_dictOfList (List.mem_of_find?_eq_some hf)
      obtain ⟨n, _, rfl⟩ := List.mem_map.1 this
      exact hcls.symm
  subst hcls'
  unfold buildColumn at hb
  split at hb
  · cases hb
  · rename_i sp hsp
    have hbm := hC sp hsp
    have : sp.buildValue C t = .ok (.inr ()) := by
      unfold ColSpec.buildValue
      rw [hbm]
      rfl
    rw [this] at hb
    cases hb
    exact ⟨t, rfl⟩

theorem barcodesTextual_noRestrictions {C : Ctx} (hC : PlainBase C) (names : List String) :
    BarcodesTextual C (some (noRestrictionsScheme names)) :=
  barcodesTextual_of_plain (noRestrictionsScheme_names_nodup names) (plainScheme_noRestrictions hC names)

theorem nextRecord_total {C : Ctx} {r : Reader} {l : Text} (hm : r.mode ≠ .strict) (hs : r.SchemeInv)
    (hn : r.next = some l) :
    ∃ rec r', r.nextRecord C = .ok (some (rec, r')) ∧ r'.SchemeInv ∧ r'.mode = r.mode := by
  obtain ⟨prec, hp⟩ := hs.parsed hn C
  have h : r.nextRecord C = .ok (some (recOf r.mode r.lineNo prec, stepOf r prec (errLogs r.mode prec.errors))) := by
    rw [nextRecord_some hn, hp]
    simp only [processErrors_nonstrict hm]
  exact ⟨_, _, h, nextRecord_schemeInv hs h, stepOf_mode ..⟩

/-- `recordErrors` outside Strict mode through `preRecord` and `validateErrors`: the form the
    examples of C17 and C03 evaluate.  (The proof does not use `hnd`.) -/
theorem recordErrors_eval (C : Ctx) {s : Scheme} (hnd : s.names.Nodup) {m : Mode} (hm : m ≠ .strict)
    (n : Nat) (l : Text) :
    recordErrors C (some s) m n l =
      match preRecord C l none (some s) (some n) with
      | .ok r => stamp n (r.validateErrors C false none)
      | .error _ => [] := by
  unfold recordErrors
  rw [fromLine_spec, parsedLine_eq]
  cases preRecord C l none (some s) (some n) with
  | error e => rfl
  | ok r => simp only [modeOrSilent, processErrors_nonstrict hm]; rfl

end Model
