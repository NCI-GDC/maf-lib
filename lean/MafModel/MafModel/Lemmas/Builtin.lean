/-
  Lemmas behind C01/C04/C05: the resolved record of every column of every
  built-in layout, and field-level acceptance = the flat domain spec.
-/
import MafModel.Lemmas.Accept
import MafModel.Spec.Layout
import MafModel.Generated.ClassTable
import MafModel.Generated.SchemeDefs
import MafModel.Generated.Enums
import MafModel.Generated.Consts
open Model Py Spec

namespace Builtin

/-- the built-in schemes as the model of `build_schemes` produces them from the generated definitions -/
def built : Except PyErr (BuildState × List (String × Scheme)) :=
  buildSchemes { tbl := Generated.classTable, order := Generated.extendClassOrder } Generated.schemeDefs

/-- column types a `RequireNullValue` redefinition may be mixed over in this
    development: their only null spelling is `""` ↦ `None` and building a
    non-empty text never yields the null value -/
def maskable : List String := ["NullableDnaString", "NullableZeroBasedIntegerColumn"]

/-- the resolved class record expected for a specification-level column type -/
def expectedOf : ColType → Option ColSpec
  | .named n => Expected.namedSpec n
  | .mixed extra (.named n) =>
    if extra = "RequireNullValue" ∧ n ∈ maskable then
      (Expected.namedSpec n).map (fun s => { s with validateChain := "RequireNullValue" :: s.validateChain })
    else none
  | .mixed _ (.mixed _ _) => none

def colOK (tbl : ClassTable) (c : String × String) (l : String × ColType) : Bool :=
  c.1 == l.1 && (expectedOf l.2).isSome && ((resolveSpec tbl c.2).map ColSpec.erase == expectedOf l.2)

def schemeOK (tbl : ClassTable) (defs : List SchemeDef) (S : Scheme) : Bool :=
  match layoutOf defs S.annotation with
  | some L => L.length == S.cols.length && (S.cols.zip L).all (fun p => colOK tbl p.1 p.2)
  | none => false

/-- every column of every built-in layout resolves (through the generated class
    table, C3 and the model of scheme building) to the record the field theorems
    are about, at the position the documented layout gives it -/
def builtinsOK : Bool :=
  match built with
  | .ok (st, ss) => ss.length == Generated.schemeDefs.length && ss.all (fun p => schemeOK st.tbl Generated.schemeDefs p.2)
  | .error _ => false

theorem named_mem (n : String) (sp : ColSpec) (h : Expected.namedSpec n = some sp) :
    (n, sp) ∈ Expected.named := by
  obtain ⟨p, hf, rfl⟩ := Option.map_eq_some_iff.mp h
  have hp : p.1 = n := by simpa using List.find?_some hf
  exact hp ▸ List.mem_of_find?_eq_some hf

/-- The one walk over `Expected.named`: a property of every named column type has one component per
    type, given under the name of the type. -/
theorem forall_named {P : String → ColSpec → Prop}
    (NullableStringColumn : P "NullableStringColumn" Expected.NullableStringColumn)
    (StringColumn : P "StringColumn" Expected.StringColumn)
    (StringOrIntegerColumn : P "StringOrIntegerColumn" Expected.StringOrIntegerColumn)
    (StringIntegerOrFloatColumn : P "StringIntegerOrFloatColumn" Expected.StringIntegerOrFloatColumn)
    (IntegerColumn : P "IntegerColumn" Expected.IntegerColumn)
    (NullableIntegerColumn : P "NullableIntegerColumn" Expected.NullableIntegerColumn)
    (ZeroBasedIntegerColumn : P "ZeroBasedIntegerColumn" Expected.ZeroBasedIntegerColumn)
    (OneBasedIntegerColumn : P "OneBasedIntegerColumn" Expected.OneBasedIntegerColumn)
    (NullableZeroBasedIntegerColumn : P "NullableZeroBasedIntegerColumn" Expected.NullableZeroBasedIntegerColumn)
    (NullableOneBasedIntegerColumn : P "NullableOneBasedIntegerColumn" Expected.NullableOneBasedIntegerColumn)
    (EntrezGeneId : P "EntrezGeneId" Expected.EntrezGeneId)
    (FloatColumn : P "FloatColumn" Expected.FloatColumn)
    (NullableFloatColumn : P "NullableFloatColumn" Expected.NullableFloatColumn)
    (SequenceOfStrings : P "SequenceOfStrings" Expected.SequenceOfStrings)
    (SequenceOfIntegers : P "SequenceOfIntegers" Expected.SequenceOfIntegers)
    (SequenceOfNullableYesOrNo : P "SequenceOfNullableYesOrNo" Expected.SequenceOfNullableYesOrNo)
    (SequenceOfSequencers : P "SequenceOfSequencers" Expected.SequenceOfSequencers)
    (NullableDnaString : P "NullableDnaString" Expected.NullableDnaString)
    (DnaString : P "DnaString" Expected.DnaString)
    (Canonical : P "Canonical" Expected.Canonical)
    (BooleanColumn : P "BooleanColumn" Expected.BooleanColumn)
    (UUIDColumn : P "UUIDColumn" Expected.UUIDColumn)
    (NullableUUIDColumn : P "NullableUUIDColumn" Expected.NullableUUIDColumn)
    (TranscriptStrand : P "TranscriptStrand" Expected.TranscriptStrand)
    (YesNoOrUnknown : P "YesNoOrUnknown" Expected.YesNoOrUnknown)
    (Strand : P "Strand" Expected.Strand)
    (VariantClassification : P "VariantClassification" Expected.VariantClassification)
    (VariantType : P "VariantType" Expected.VariantType)
    (VariantSupport : P "VariantSupport" Expected.VariantSupport)
    (MutationStatus : P "MutationStatus" Expected.MutationStatus)
    (Sequencer : P "Sequencer" Expected.Sequencer)
    (Impact : P "Impact" Expected.Impact)
    (MC3Overlap : P "MC3Overlap" Expected.MC3Overlap)
    (GdcValidationStatus : P "GdcValidationStatus" Expected.GdcValidationStatus)
    (VerificationStatus : P "VerificationStatus" Expected.VerificationStatus)
    (ValidationStatus : P "ValidationStatus" Expected.ValidationStatus)
    (FeatureType : P "FeatureType" Expected.FeatureType)
    (NullableYesOrNo : P "NullableYesOrNo" Expected.NullableYesOrNo)
    (NullableYOrN : P "NullableYOrN" Expected.NullableYOrN)
    (PickColumn : P "PickColumn" Expected.PickColumn)
    {n : String} {sp : ColSpec} (h : Expected.namedSpec n = some sp) : P n sp := by
  have key : ∀ p ∈ Expected.named, P p.1 p.2 := by
    simp only [Expected.named, List.forall_mem_cons, List.not_mem_nil, false_imp_iff, implies_true,
      and_true]
    exact ⟨NullableStringColumn, StringColumn, StringOrIntegerColumn, StringIntegerOrFloatColumn, IntegerColumn,
      NullableIntegerColumn, ZeroBasedIntegerColumn, OneBasedIntegerColumn, NullableZeroBasedIntegerColumn, NullableOneBasedIntegerColumn,
      EntrezGeneId, FloatColumn, NullableFloatColumn, SequenceOfStrings, SequenceOfIntegers,
      SequenceOfNullableYesOrNo, SequenceOfSequencers, NullableDnaString, DnaString, Canonical,
      BooleanColumn, UUIDColumn, NullableUUIDColumn, TranscriptStrand, YesNoOrUnknown,
      Strand, VariantClassification, VariantType, VariantSupport, MutationStatus,
      Sequencer, Impact, MC3Overlap, GdcValidationStatus, VerificationStatus,
      ValidationStatus, FeatureType, NullableYesOrNo, NullableYOrN, PickColumn⟩
  exact key _ (named_mem n sp h)

open Accept in
/-- field-level refinement for every named type -/
theorem accept_named (C : Ctx) (n : String) (sp : ColSpec) (t : Text)
    (h : Expected.namedSpec n = some sp) :
    sp.accept C false t = namedBuild ⟨C.enums, C.H⟩ n t :=
  forall_named (P := fun n sp => ∀ t, sp.accept C false t = namedBuild ⟨C.enums, C.H⟩ n t)
    (NullableStringColumn := accept_NullableStringColumn C)
    (StringColumn := accept_StringColumn C)
    (StringOrIntegerColumn := accept_StringOrIntegerColumn C)
    (StringIntegerOrFloatColumn := accept_StringIntegerOrFloatColumn C)
    (IntegerColumn := accept_int C none)
    (NullableIntegerColumn := accept_nullableInt C none)
    (ZeroBasedIntegerColumn := accept_int C (some 0))
    (OneBasedIntegerColumn := accept_int C (some 1))
    (NullableZeroBasedIntegerColumn := accept_nullableInt C (some 0))
    (NullableOneBasedIntegerColumn := accept_nullableInt C (some 1))
    (EntrezGeneId := accept_EntrezGeneId C)
    (FloatColumn := accept_FloatColumn C)
    (NullableFloatColumn := accept_NullableFloatColumn C)
    (SequenceOfStrings := accept_SequenceOfStrings C)
    (SequenceOfIntegers := accept_SequenceOfIntegers C)
    (SequenceOfNullableYesOrNo := accept_SequenceOfNullableYesOrNo C)
    (SequenceOfSequencers := accept_SequenceOfSequencers C)
    (NullableDnaString := accept_NullableDnaString C)
    (DnaString := accept_DnaString C)
    (Canonical := accept_Canonical C)
    (BooleanColumn := accept_BooleanColumn C)
    (UUIDColumn := accept_UUIDColumn C)
    (NullableUUIDColumn := accept_NullableUUIDColumn C)
    (TranscriptStrand := accept_TranscriptStrand C)
    (YesNoOrUnknown := accept_YesNoOrUnknown C)
    (Strand := accept_enum C "StrandEnum")
    (VariantClassification := accept_enum C "VariantClassificationEnum")
    (VariantType := accept_enum C "VariantTypeEnum")
    (VariantSupport := accept_enum C "VariantSupportEnum")
    (MutationStatus := accept_enum C "MutationStatusEnum")
    (Sequencer := accept_enum C "SequencerEnum")
    (Impact := accept_enum C "ImpactEnum")
    (MC3Overlap := accept_enum C "MC3OverlapEnum")
    (GdcValidationStatus := accept_enum C "GdcValidationStatusEnum")
    (VerificationStatus := accept_nullableEnum C "VerificationStatusEnum")
    (ValidationStatus := accept_nullableEnum C "ValidationStatusEnum")
    (FeatureType := accept_nullableEnum C "FeatureTypeEnum")
    (NullableYesOrNo := accept_NullableYesOrNo C)
    (NullableYOrN := accept_NullableYOrN C)
    (PickColumn := accept_PickColumn C)
    h t

/-! ### columns redefined with `RequireNullValue` -/

theorem expectedOf_mixed {extra : String} {b : ColType} {sp : ColSpec}
    (h : expectedOf (.mixed extra b) = some sp) :
    extra = "RequireNullValue" ∧ ∃ n ∈ maskable, b = .named n ∧ ∃ s, Expected.namedSpec n = some s ∧
      { s with validateChain := "RequireNullValue" :: s.validateChain } = sp := by
  cases b with
  | named n =>
    simp only [expectedOf] at h
    split at h
    · obtain ⟨s, hs, rfl⟩ := Option.map_eq_some_iff.mp h
      exact ⟨‹_ ∧ _›.1, n, ‹_ ∧ _›.2, rfl, s, hs, rfl⟩
    · cases h
  | mixed e2 b2 => simp [expectedOf] at h

/-- what makes a named type maskable: `""` ↦ `None` is its only null spelling, and its
    `__build__` never returns `None` -/
theorem maskable_spec {n : String} {s : ColSpec} (hn : n ∈ maskable)
    (hs : Expected.namedSpec n = some s) :
    s.buildMethod = some "MafCustomColumnRecord" ∧ s.validateMethod = some "MafCustomColumnRecord" ∧
      s.nullDict = some [("", .none)] ∧ namedNulls n = [([], .atom .none)] ∧
      (∀ S, namedBuild S n [] = some (.atom .none)) ∧
      ∀ C t v, runBuild C s t = .ok v → v ≠ .atom .none := by
  simp only [maskable, List.mem_cons, List.mem_nil_iff, or_false] at hn
  rcases hn with rfl | rfl <;> cases Option.some.inj hs <;>
    refine ⟨rfl, rfl, rfl, rfl, fun _ => rfl, fun C t v hr => ?_⟩
  · simp [runBuild, Expected.NullableDnaString, Except.map] at hr
    subst hr; simp
  · simp [runBuild, Expected.NullableZeroBasedIntegerColumn, Except.map, bInt] at hr
    cases hp : pyInt t <;> simp [hp] at hr
    subst hr; simp

open Accept in
/-- A maskable type under `RequireNullValue` reads `""` as `None` and nothing else: the null
    spelling is looked up before anything is built, and whatever is built from another text is
    not the null value, so that `RequireNullValue.__validate__` rejects it. -/
theorem accept_masked {C : Ctx} {n : String} {sp : ColSpec}
    (h : expectedOf (.mixed "RequireNullValue" (.named n)) = some sp) (t : Text) :
    sp.accept C false t = if t = [] then some (.atom .none) else none := by
  obtain ⟨-, _, hn, hb, s, hs, hsp⟩ := expectedOf_mixed h
  cases hb
  obtain ⟨hbm, hvm, hd, -, -, hnn⟩ := maskable_spec hn hs
  -- `sp` is `s` but for its validation chain
  obtain ⟨e1, e2, e3, hvc, hrb⟩ : sp.buildMethod = s.buildMethod ∧ sp.validateMethod = s.validateMethod ∧
      sp.nullDict = s.nullDict ∧ sp.validateChain = "RequireNullValue" :: s.validateChain ∧
      runBuild C sp t = runBuild C s t := hsp ▸ ⟨rfl, rfl, rfl, rfl, rfl⟩
  rw [← e1] at hbm; rw [← e2] at hvm; rw [← e3] at hd
  rw [accept_eq_custom _ _ _ hbm]
  by_cases ht : t = []
  · simp [acceptCustom, hd, ht, ColSpec.valueInvalid, hvm, ColSpec.isNullValue, ColSpec.nullValues,
      NullVal.toPy]
  · simp only [acceptCustom, hd, ht, if_false, hrb]
    simp only [Option.bind, List.find?, String.toList_empty, nil_beq, ht, decide_false]
    cases hr : runBuild C s t with
    | error e => rfl
    | ok v =>
      have hv := hnn C t v hr
      simp only [ColSpec.valueInvalid, hvm, ColSpec.isNullValue, ColSpec.nullValues, hd, NullVal.toPy,
        hvc, runValidate_RequireNullValue]
      cases v with
      | atom a => simpa using fun (e : a = .none) => hv (e ▸ rfl)
      | list xs => simp
      | tuple xs => simp [PyVal.pyEq]

/-- the documented domain of such a type is the same -/
theorem specBuild_masked (S : SCtx) {n : String} (hn : n ∈ maskable) (t : Text) :
    specBuild S (.mixed "RequireNullValue" (.named n)) t = if t = [] then some (.atom .none) else none := by
  have hs : (Expected.namedSpec n).isSome = true := by
    simp only [maskable, List.mem_cons, List.mem_nil_iff, or_false] at hn
    rcases hn with rfl | rfl <;> rfl
  obtain ⟨s, hs⟩ := Option.isSome_iff_exists.mp hs
  obtain ⟨-, -, -, hnulls, hnone, -⟩ := maskable_spec hn hs
  simp only [specBuild, baseName, hnulls, if_true, List.any_cons, List.any_nil, Bool.or_false,
    decide_eq_true_eq]
  by_cases ht : t = []
  · subst ht; simp [hnone]
  · cases namedBuild S n t <;> simp [ht, eq_comm]

/-- acceptance does not depend on the identity of the class, only on what
    method resolution decided -/
theorem accept_erase (C : Ctx) (sp : ColSpec) (b : Bool) (t : Text) :
    sp.erase.accept C b t = sp.accept C b t := by
  simp [ColSpec.accept, ColSpec.erase, ColSpec.buildValue, runBuild, ColSpec.valueInvalid,
    ColSpec.isNullValue, ColSpec.nullValues, ColSpec.elemInvalid]

/-- Field-level refinement (C01): for every specification-level column type the
    development covers, the operational acceptance of a text equals the typed
    value the flat specification says the text denotes. -/
theorem field_accept (C : Ctx) (ty : ColType) (sp : ColSpec) (t : Text)
    (h : expectedOf ty = some sp) :
    sp.accept C false t = specBuild ⟨C.enums, C.H⟩ ty t := by
  cases ty with
  | named n => exact accept_named C n sp t h
  | mixed extra b =>
    obtain ⟨rfl, n, hn, rfl, -⟩ := expectedOf_mixed h
    rw [accept_masked h, specBuild_masked _ hn]

end Builtin
