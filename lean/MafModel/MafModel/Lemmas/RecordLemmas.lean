/-
  `MafRecord` (`maflib/record.py`) as a mutable mapping: the coherence invariant `Inv` of its
  two indexes, the name map and the slot list, and that every edit of a coherent record
  (`setItem`, `delItem`, `popItem`, `clear`) is all or nothing: `Record.Atomic` (property C15).
-/
import MafModel.Model.Record
open Py
namespace Model

/-! ### association lists with Python `dict` semantics -/

section tdict
variable {β : Type}

theorem tdictGet_nil (k : Text) : tdictGet ([] : List (Text × β)) k = none := rfl

theorem tdictGet_cons (p : Text × β) (d : List (Text × β)) (k : Text) :
    tdictGet (p :: d) k = if p.1 = k then some p.2 else tdictGet d k := by
  by_cases h : p.1 = k <;> simp [tdictGet, h]

theorem mem_of_tdictGet {d : List (Text × β)} {k : Text} {v : β}
    (h : tdictGet d k = some v) : (k, v) ∈ d := by
  obtain ⟨⟨k', v'⟩, hp, rfl⟩ := Option.map_eq_some_iff.1 h
  obtain rfl : k' = k := by simpa using List.find?_some hp
  exact List.mem_of_find?_eq_some hp

theorem tdictGet_eq_none_iff {d : List (Text × β)} {k : Text} :
    tdictGet d k = none ↔ k ∉ d.map (·.1) := by
  simp only [tdictGet, Option.map_eq_none_iff, List.find?_eq_none, List.mem_map, beq_iff_eq]
  exact ⟨fun h ⟨p, hp, e⟩ => h p hp e, fun h p hp e => h ⟨p, hp, e⟩⟩

theorem tdictGet_of_mem {d : List (Text × β)} (hnd : (d.map (·.1)).Nodup)
    {p : Text × β} (hp : p ∈ d) : tdictGet d p.1 = some p.2 := by
  induction d with
  | nil => cases hp
  | cons q d ih =>
    rw [tdictGet_cons]
    simp only [List.map_cons, List.nodup_cons] at hnd
    rcases List.mem_cons.1 hp with rfl | hp'
    · simp
    · have : q.1 ≠ p.1 := fun e => hnd.1 (e ▸ List.mem_map_of_mem (f := (·.1)) hp')
      simp [this, ih hnd.2 hp']

theorem any_key_iff (d : List (Text × β)) (k : Text) :
    d.any (fun p => p.1 == k) = true ↔ k ∈ d.map (·.1) := by
  simp

theorem mem_tdictSet {d : List (Text × β)} {k : Text} {v : β} {p : Text × β} :
    p ∈ tdictSet d k v ↔ p = (k, v) ∨ (p ∈ d ∧ p.1 ≠ k) := by
  unfold tdictSet
  split
  · next hk =>
    obtain ⟨q, hq, hqk⟩ := List.any_eq_true.1 hk
    simp only [List.mem_map]
    constructor
    · rintro ⟨q, hq, rfl⟩
      by_cases hqk : q.1 = k <;> simp [hqk, hq]
    · rintro (rfl | ⟨hp, hne⟩)
      · exact ⟨q, hq, by simp [hqk]⟩
      · exact ⟨p, hp, by simp [hne]⟩
  · next hk =>
    have hne : p ∈ d → p.1 ≠ k := fun hp e => hk (List.any_eq_true.2 ⟨p, hp, by simpa using e⟩)
    simp only [List.mem_append, List.mem_singleton]
    exact ⟨fun h => h.symm.imp_right fun hp => ⟨hp, hne hp⟩, fun h => (h.imp_right And.left).symm⟩


theorem tdictSet_names (d : List (Text × β)) (k : Text) (v : β) :
    (tdictSet d k v).map (·.1) =
      if k ∈ d.map (·.1) then d.map (·.1) else d.map (·.1) ++ [k] := by
  unfold tdictSet
  simp only [any_key_iff]
  split
  · rw [List.map_map]
    exact List.map_congr_left fun p _ => by by_cases hp : p.1 = k <;> simp [hp]
  · simp

theorem tdictSet_nodup {d : List (Text × β)} (hnd : (d.map (·.1)).Nodup) (k : Text) (v : β) :
    ((tdictSet d k v).map (·.1)).Nodup := by
  rw [tdictSet_names]
  split
  · exact hnd
  · next h =>
    refine List.nodup_append.2 ⟨hnd, by simp, ?_⟩
    rintro a ha _ hb rfl
    exact h (List.mem_singleton.1 hb ▸ ha)

theorem tdictGet_map_replace (d : List (Text × β)) (k : Text) (v : β) (k' : Text) :
    tdictGet (d.map (fun p => if p.1 == k then (k, v) else p)) k' =
      if k' = k then (tdictGet d k).map (fun _ => v) else tdictGet d k' := by
  induction d with
  | nil => simp [tdictGet_nil]
  | cons q d ih =>
    simp only [List.map_cons, tdictGet_cons, ih]
    by_cases hk' : k' = k
    · subst hk'; by_cases hq : q.1 = k' <;> simp [hq]
    · by_cases hq : q.1 = k <;> simp [hq, hk', Ne.symm hk']

theorem tdictGet_append (d₁ d₂ : List (Text × β)) (k : Text) :
    tdictGet (d₁ ++ d₂) k = (tdictGet d₁ k).or (tdictGet d₂ k) := by
  simp [tdictGet, List.find?_append, Option.map_or]

theorem tdictGet_tdictSet {d : List (Text × β)} (k : Text) (v : β) (k' : Text) :
    tdictGet (tdictSet d k v) k' = if k' = k then some v else tdictGet d k' := by
  unfold tdictSet
  split
  · next hk =>
    obtain ⟨w, hw⟩ := Option.ne_none_iff_exists'.1
      (mt tdictGet_eq_none_iff.1 (not_not_intro ((any_key_iff d k).1 hk)))
    rw [tdictGet_map_replace, hw]; rfl
  · next hk =>
    have hnone := tdictGet_eq_none_iff.2 (mt (any_key_iff d k).2 hk)
    rw [tdictGet_append, tdictGet_cons, tdictGet_nil]
    by_cases h : k' = k
    · subst h; simp [hnone]
    · simp [h, Ne.symm h]

theorem mem_tdictDel {d : List (Text × β)} {k : Text} {p : Text × β} :
    p ∈ tdictDel d k ↔ p ∈ d ∧ p.1 ≠ k := by
  simp [tdictDel]

theorem tdictDel_nodup {d : List (Text × β)} (hnd : (d.map (·.1)).Nodup) (k : Text) :
    ((tdictDel d k).map (·.1)).Nodup :=
  hnd.sublist (List.filter_sublist.map _)

theorem tdictGet_tdictDel {d : List (Text × β)} (k k' : Text) :
    tdictGet (tdictDel d k) k' = if k' = k then none else tdictGet d k' := by
  induction d with
  | nil => simp [tdictDel, tdictGet_nil]
  | cons q d ih =>
    unfold tdictDel at ih ⊢
    rw [List.filter_cons]
    by_cases hq : q.1 = k
    · rw [if_neg (by simp [hq]), ih]
      split
      · rfl
      · next h => rw [tdictGet_cons, if_neg (hq ▸ Ne.symm h)]
    · rw [if_pos (by simp [hq]), tdictGet_cons, tdictGet_cons, ih]
      split
      · next h => rw [if_neg (h ▸ hq)]
      · rfl

end tdict

/-! ### the slot list -/

/-- one formula for both branches of `setSlot`: padding by no cell at all changes nothing -/
theorem setSlot_eq (l : List (Option RCol)) (i : Nat) (x : RCol) :
    setSlot l i x = (l ++ List.replicate (i + 1 - l.length) none).set i (some x) := by
  unfold setSlot
  split
  · rfl
  · rw [Nat.sub_eq_zero_of_le (by omega), List.replicate_zero, List.append_nil]

theorem setSlot_length (l : List (Option RCol)) (i : Nat) (x : RCol) :
    (setSlot l i x).length = max l.length (i + 1) := by
  simp [setSlot_eq]; omega

theorem setSlot_getElem? (l : List (Option RCol)) (i j : Nat) (x : RCol) :
    (setSlot l i x)[j]? =
      if j = i then some (some x) else if j < l.length then l[j]? else if j < i then some none else none := by
  rw [setSlot_eq, List.getElem?_set, List.getElem?_append, List.getElem?_replicate]
  simp only [List.length_append, List.length_replicate]
  by_cases hij : i = j
  · subst hij; simp; omega
  · simp only [hij, Ne.symm hij, if_false]
    by_cases hj : j < l.length
    · simp [hj]
    · simp only [hj, if_false]; congr 1; simp; omega

theorem setSlot_getElem?_self (l : List (Option RCol)) (i : Nat) (x : RCol) :
    (setSlot l i x)[i]? = some (some x) := by
  simp [setSlot_getElem?]

theorem setSlot_getElem?_some_ne (l : List (Option RCol)) (i j : Nat) (x c : RCol) (hij : j ≠ i) :
    (setSlot l i x)[j]? = some (some c) ↔ l[j]? = some (some c) := by
  rw [setSlot_getElem?, if_neg hij]
  split
  · rfl
  · next hj => rw [List.getElem?_eq_none (by omega)]; split <;> simp

theorem setSlot_pad (l : List (Option RCol)) (n : Nat) (x : RCol) :
    setSlot l (l.length + n) x = l ++ List.replicate n none ++ [some x] := by
  rw [setSlot_eq, show l.length + n + 1 - l.length = n + 1 by omega, List.replicate_succ',
    ← List.append_assoc, List.set_append]
  simp

theorem setSlot_getLast? (l : List (Option RCol)) (i : Nat) (x : RCol)
    (h : l.getLast? ≠ some none) : (setSlot l i x).getLast? ≠ some none := by
  rw [List.getLast?_eq_getElem?] at h ⊢
  rw [setSlot_length, setSlot_getElem?]
  split
  · simp
  · next hi =>
    rw [show max l.length (i + 1) - 1 = l.length - 1 by omega, if_pos (by omega)]
    exact h

theorem trimNone_spec (l : List (Option RCol)) :
    ∃ n, l = trimNone l ++ List.replicate n none := by
  refine ⟨(l.reverse.takeWhile (·.isNone)).length, ?_⟩
  have ht : (l.reverse.takeWhile (·.isNone)).reverse = List.replicate (l.reverse.takeWhile (·.isNone)).length none :=
    List.eq_replicate_iff.2 ⟨by simp, fun o ho => by
      simpa using List.all_eq_true.1 List.all_takeWhile o (List.mem_reverse.1 ho)⟩
  rw [← ht, trimNone, ← List.reverse_append, List.takeWhile_append_dropWhile, List.reverse_reverse]

theorem trimNone_getLast? (l : List (Option RCol)) : (trimNone l).getLast? ≠ some none := by
  rw [trimNone, List.getLast?_reverse]
  intro h
  simpa [h] using List.head?_dropWhile_not (fun (o : Option RCol) => o.isNone) l.reverse

theorem trimNone_getElem?_some (l : List (Option RCol)) (i : Nat) (c : RCol) :
    (trimNone l)[i]? = some (some c) ↔ l[i]? = some (some c) := by
  obtain ⟨n, hl⟩ := trimNone_spec l
  conv => rhs; rw [hl, List.getElem?_append, List.getElem?_replicate]
  split
  · rfl
  · next hi => rw [List.getElem?_eq_none (by omega)]; split <;> simp

theorem trimNone_length_le (l : List (Option RCol)) : (trimNone l).length ≤ l.length := by
  obtain ⟨n, hl⟩ := trimNone_spec l
  conv => rhs; rw [hl]
  simp

theorem mem_trimNone {l : List (Option RCol)} {o : Option RCol} (h : o ∈ trimNone l) : o ∈ l := by
  obtain ⟨n, hl⟩ := trimNone_spec l
  rw [hl]; exact List.mem_append_left _ h

theorem trimNone_of_getLast? (l : List (Option RCol)) (h : l.getLast? ≠ some none) :
    trimNone l = l := by
  obtain ⟨n, hl⟩ := trimNone_spec l
  cases n with
  | zero => simpa using hl.symm
  | succ n =>
    rw [hl, List.replicate_succ', ← List.append_assoc, List.getLast?_concat] at h
    exact absurd rfl h

theorem trimNone_append_none (l : List (Option RCol)) : trimNone (l ++ [none]) = trimNone l := by
  simp [trimNone]

theorem trimNone_append_some (l : List (Option RCol)) (x : RCol) :
    trimNone (l ++ [some x]) = l ++ [some x] := by
  simp [trimNone]

theorem setSlot_trimNone (l : List (Option RCol)) (x : RCol) :
    setSlot (trimNone l) l.length x = l ++ [some x] := by
  obtain ⟨n, hl⟩ := trimNone_spec l
  have hlen : l.length = (trimNone l).length + n := by simpa using congrArg List.length hl
  rw [hlen, setSlot_pad, ← hl]

theorem getD_eq_some_iff (l : List (Option RCol)) (i : Nat) (c : RCol) :
    l.getD i none = some c ↔ l[i]? = some (some c) := by
  rw [List.getD_eq_getElem?_getD]
  cases l[i]? <;> simp

/-! ### the coherence invariant -/

/-- Coherence of the two indexes of a record (name map and slot list). -/
structure Record.Inv (r : Record) : Prop where
  nodup : (r.dict.map (·.1)).Nodup
  dict_ok : ∀ p ∈ r.dict, p.2.col.key = p.1 ∧
      ∃ i : Nat, p.2.col.index = some (i : Int) ∧ r.slots[i]? = some (some p.2)
  slot_ok : ∀ (i : Nat) (c : RCol), r.slots[i]? = some (some c) →
      c.col.index = some (i : Int) ∧ tdictGet r.dict c.col.key = some c
  /-- `delItem` trims the trailing empty slots -/
  last_ok : r.slots.getLast? ≠ some none

theorem Record.Inv.of_eq {r r' : Record} (h : r.Inv) (hd : r'.dict = r.dict) (hs : r'.slots = r.slots) :
    r'.Inv :=
  ⟨hd ▸ h.nodup, by rw [hd, hs]; exact h.dict_ok, by rw [hd, hs]; exact h.slot_ok, hs ▸ h.last_ok⟩

theorem Record.Inv.init : Record.Inv {} :=
  ⟨by simp, by simp, by simp, by simp⟩

theorem Record.Inv.get_ok {r : Record} (h : r.Inv) {k : Text} {c : RCol} (hg : tdictGet r.dict k = some c) :
    c.col.key = k ∧ ∃ i : Nat, c.col.index = some (i : Int) ∧ r.slots[i]? = some (some c) :=
  h.dict_ok _ (mem_of_tdictGet hg)

theorem Record.Inv.insert {r : Record} (h : r.Inv) (x : RCol) (n : Nat)
    (hidx : x.col.index = some (n : Int))
    (hocc : ∀ occ, r.slots[n]? = some (some occ) → occ.col.key = x.col.key)
    (hold : ∀ old, tdictGet r.dict x.col.key = some old → old.col.index = some (n : Int)) :
    Record.Inv { r with dict := tdictSet r.dict x.col.key x, slots := setSlot r.slots n x } := by
  refine ⟨tdictSet_nodup h.nodup _ _, ?_, ?_, setSlot_getLast? _ _ _ h.last_ok⟩
  · intro p hp
    rcases mem_tdictSet.1 hp with rfl | ⟨hpd, hne⟩
    · exact ⟨rfl, n, hidx, setSlot_getElem?_self _ _ _⟩
    · obtain ⟨hk, i, hi, hsl⟩ := h.dict_ok p hpd
      -- `p` is not in slot `n`: the column there has the name of `x`
      have hin : i ≠ n := by rintro rfl; exact hne (hk ▸ hocc _ hsl)
      exact ⟨hk, i, hi, (setSlot_getElem?_some_ne _ _ _ _ _ hin).2 hsl⟩
  · intro i c hc
    by_cases hin : i = n
    · subst hin
      obtain rfl : x = c := by simpa [setSlot_getElem?_self] using hc
      exact ⟨hidx, by simp [tdictGet_tdictSet]⟩
    · obtain ⟨hi, hg⟩ := h.slot_ok i c ((setSlot_getElem?_some_ne _ _ _ _ _ hin).1 hc)
      -- `c` has another name than `x`: a stored column of that name has index `n`
      have hne : c.col.key ≠ x.col.key := fun e =>
        hin (Int.natCast_inj.1 (Option.some.inj (hi.symm.trans (hold c (e ▸ hg)))))
      exact ⟨hi, by rw [tdictGet_tdictSet, if_neg hne]; exact hg⟩

theorem Record.Inv.remove {r : Record} (h : r.Inv) (c : RCol) (n : Nat)
    (hc : r.slots[n]? = some (some c)) (s' : List (Option RCol))
    (hs' : ∀ i c', s'[i]? = some (some c') ↔ (i ≠ n ∧ r.slots[i]? = some (some c')))
    (hlast : s'.getLast? ≠ some none) :
    Record.Inv { r with dict := tdictDel r.dict c.col.key, slots := s' } := by
  obtain ⟨hci, hcg⟩ := h.slot_ok n c hc
  refine ⟨tdictDel_nodup h.nodup _, ?_, ?_, hlast⟩
  · intro p hp
    obtain ⟨hpd, hne⟩ := mem_tdictDel.1 hp
    obtain ⟨hk, i, hi, hsl⟩ := h.dict_ok p hpd
    refine ⟨hk, i, hi, (hs' i p.2).2 ⟨?_, hsl⟩⟩
    rintro rfl
    obtain rfl : c = p.2 := by simpa [hc] using hsl
    exact hne hk.symm
  · intro i c' hc'
    obtain ⟨hin, hsl⟩ := (hs' i c').1 hc'
    obtain ⟨hi, hg⟩ := h.slot_ok i c' hsl
    -- `c'` has another name than `c`: under one name there is one column, with one index
    have hne : c'.col.key ≠ c.col.key := fun e => by
      obtain rfl : c = c' := by simpa [e, hcg] using hg
      exact hin (Int.natCast_inj.1 (Option.some.inj (hi.symm.trans hci)))
    exact ⟨hi, by rw [tdictGet_tdictDel, if_neg hne]; exact hg⟩

/-! ### `record[key] = column` -/

/-- the list assignment of `setItem`, after its padding, for a natural index -/
theorem listSetPy_pad (l : List (Option RCol)) (n : Nat) (x : RCol) :
    listSetPy (if (l.length : Int) ≤ n then l ++ List.replicate ((n : Int) - l.length + 1).toNat none else l)
      n x = .ok (setSlot l n x) := by
  rw [setSlot_eq, show ((n : Int) - l.length + 1).toNat = n + 1 - l.length by omega]
  by_cases hlen : l.length ≤ n
  · rw [if_pos (by omega)]
    simp [listSetPy]; omega
  · rw [if_neg (by omega), Nat.sub_eq_zero_of_le (by omega)]
    simp [listSetPy]; omega

/-- the success case carries the hypotheses of `Inv.insert` -/
theorem setItem_cases {r : Record} (h : r.Inv) (key : RKey) (x : RCol) :
    (∃ e, r.setItem key x = (r, .error e) ∧ (e = .key ∨ e = .value ∨ e = .type)) ∨
    (∃ (x' : RCol) (n : Nat), x'.col.index = some (n : Int) ∧
      (∀ occ, r.slots[n]? = some (some occ) → occ.col.key = x'.col.key) ∧
      (∀ old, tdictGet r.dict x'.col.key = some old → old.col.index = some (n : Int)) ∧
      r.setItem key x =
        ({ r with dict := tdictSet r.dict x'.col.key x', slots := setSlot r.slots n x' }, .ok ())) := by
  unfold Record.setItem
  dsimp only
  -- every exception of the steps 1 to 3 is a literal `KeyError`, `ValueError` or `TypeError`
  split
  · next e h1 =>
    refine Or.inl ⟨e, rfl, ?_⟩
    (repeat' split at h1) <;> cases h1 <;> simp
  next x1 _ =>
  split
  · next e h3 =>
    refine Or.inl ⟨e, rfl, Or.inr (Or.inl ?_)⟩
    split at h3
    · next h2 => cases h3; (repeat' split at h2) <;> cases h2 <;> rfl
    · (repeat' split at h3) <;> cases h3 <;> rfl
  next x3 h3 =>
  split at h3
  · cases h3
  next x2 h2 =>
  -- step 2 gives the column the index of its name: the one a column of that name already has
  have s2 : x2.col.key = x1.col.key ∧ ∃ ci : Int, x2.col.index = some ci ∧
      ∀ old, tdictGet r.dict x1.col.key = some old → old.col.index = some ci := by
    cases hg : tdictGet r.dict x1.col.key with
    | none =>
      simp only [hg] at h2
      split at h2 <;> cases h2
      · exact ⟨rfl, _, rfl, nofun⟩
      · next hi => exact ⟨rfl, _, hi, nofun⟩
    | some old =>
      simp only [hg] at h2
      obtain ⟨_, i, hoi, _⟩ := h.get_ok hg
      split at h2
      · cases h2; exact ⟨rfl, i, hoi, by rintro _ ⟨⟩; exact hoi⟩
      · next ci hi =>
        split at h2 <;> cases h2
        next hne => exact ⟨rfl, ci, hi, by rintro _ ⟨⟩; exact Decidable.not_not.1 hne⟩
  obtain ⟨hk, ci, hci, hold⟩ := s2
  -- step 3 lets it pass when that index is natural and its slot is free or holds the same name
  rw [hci] at h3
  dsimp only at h3
  split at h3
  · cases h3
  next hneg =>
  obtain ⟨n, rfl⟩ := Int.eq_ofNat_of_zero_le (Int.not_lt.1 hneg)
  have s3 : x3 = x2 ∧ ∀ occ, r.slots[n]? = some (some occ) → occ.col.key = x2.col.key := by
    simp only [Int.toNat_natCast, ← getD_eq_some_iff] at h3 ⊢
    split at h3
    · next occ ho =>
      split at h3 <;> cases h3
      next hne => exact ⟨rfl, by rintro _ (e : _ = _); rw [ho] at e; cases e; exact hk ▸ Decidable.not_not.1 hne⟩
    · next ho => cases h3; exact ⟨rfl, fun _ e => by rw [ho] at e; cases e⟩
  obtain ⟨rfl, hocc⟩ := s3
  refine Or.inr ⟨x3, n, hci, hocc, hk ▸ hold, ?_⟩
  simp only [hci, listSetPy_pad, hk]

/-! ### lookups -/

theorem getItem_int_iff (r : Record) (i : Nat) (c : RCol) :
    r.getItem (.int (i : Int)) = .ok (some c) ↔ r.slots[i]? = some (some c) := by
  simp only [Record.getItem, Int.toNat_natCast]
  split
  · next hi => rw [List.getElem?_eq_none (by omega)]; simp
  · rw [Except.ok.injEq]; exact getD_eq_some_iff _ _ _

theorem getItem_int_neg (r : Record) (i : Int) (hi : i < 0) :
    r.getItem (.int i) = .error .key := by
  simp [Record.getItem, hi]

theorem getItem_name_iff (r : Record) (n : Text) (c : RCol) :
    r.getItem (.name n) = .ok (some c) ↔ tdictGet r.dict n = some c := by
  simp only [Record.getItem]
  cases tdictGet r.dict n <;> simp

theorem getItem_column_iff (r : Record) (k : Column) (c : RCol) :
    r.getItem (.column k) = .ok (some c) ↔ tdictGet r.dict k.key = some c :=
  getItem_name_iff r k.key c

theorem getItem_some {r : Record} (h : r.Inv) {key : RKey} {c : RCol}
    (hg : r.getItem key = .ok (some c)) :
    ∃ n : Nat, c.col.index = some (n : Int) ∧ r.slots[n]? = some (some c) ∧
      tdictGet r.dict c.col.key = some c := by
  have of_dict {k : Text} (hd : tdictGet r.dict k = some c) : ∃ n : Nat, c.col.index = some (n : Int) ∧
      r.slots[n]? = some (some c) ∧ tdictGet r.dict c.col.key = some c := by
    obtain ⟨hk, n, hn, hs⟩ := h.get_ok hd
    exact ⟨n, hn, hs, hk ▸ hd⟩
  cases key with
  | int i =>
    by_cases hneg : i < 0
    · rw [getItem_int_neg r i hneg] at hg; cases hg
    · obtain ⟨n, rfl⟩ := Int.eq_ofNat_of_zero_le (Int.not_lt.1 hneg)
      have hs := (getItem_int_iff _ _ _).1 hg
      exact ⟨n, (h.slot_ok _ _ hs).1, hs, (h.slot_ok _ _ hs).2⟩
  | column k => exact of_dict ((getItem_column_iff _ _ _).1 hg)
  | name s => exact of_dict ((getItem_name_iff _ _ _).1 hg)
  | none => cases hg
  | other => cases hg

/-! ### `del record[key]` -/

/-- the success case carries the hypotheses of `Inv.remove` -/
theorem delItem_cases {r : Record} (h : r.Inv) (key : RKey) :
    (∃ e, r.delItem key = (r, .error e) ∧
        (r.getItem key = .error e ∨ (r.getItem key = .ok none ∧ e = .key))) ∨
    (∃ (c : RCol) (n : Nat) (s' : List (Option RCol)),
      r.getItem key = .ok (some c) ∧
      r.slots[n]? = some (some c) ∧
      (∀ i c', s'[i]? = some (some c') ↔ (i ≠ n ∧ r.slots[i]? = some (some c'))) ∧
      s'.getLast? ≠ some none ∧
      r.delItem key = ({ r with dict := tdictDel r.dict c.col.key, slots := s' }, .ok ())) := by
  unfold Record.delItem
  cases hg : r.getItem key with
  | error e => exact Or.inl ⟨e, rfl, Or.inl rfl⟩
  | ok o =>
    cases o with
    | none => exact Or.inl ⟨_, rfl, Or.inr ⟨rfl, rfl⟩⟩
    | some c =>
      obtain ⟨n, hn, hs, _⟩ := getItem_some h hg
      have hlt : n < r.slots.length := (List.getElem?_eq_some_iff.1 hs).1
      have occupied {i c'} (hi : r.slots[i]? = some (some c')) : i < r.slots.length :=
        (List.getElem?_eq_some_iff.1 hi).1
      simp only [hn]
      by_cases hlast : (n : Int) = (r.slots.length : Int) - 1
      · -- the last slot goes, and the empty ones in front of it
        refine Or.inr ⟨c, n, trimNone r.slots.dropLast, rfl, hs, ?_, trimNone_getLast? _, by simp [hlast]⟩
        intro i c'
        rw [trimNone_getElem?_some, List.getElem?_dropLast]
        split
        · exact (and_iff_right (by omega)).symm
        · exact ⟨nofun, fun ⟨hin, hi⟩ => absurd (occupied hi) (by omega)⟩
      · -- a slot in the middle is emptied
        refine Or.inr ⟨c, n, r.slots.set n none, rfl, hs, ?_, ?_, by simp [hlast, hlt]⟩
        · intro i c'
          rw [List.getElem?_set]
          split
          · next hin => simp [hin]
          · next hin => exact (and_iff_right (Ne.symm hin)).symm
        · have hl := h.last_ok
          rw [List.getLast?_eq_getElem?] at hl ⊢
          rwa [List.length_set, List.getElem?_set, if_neg (by omega)]

/-! ### what every edit does -/

/-- The outcome `res` of an edit of `r` that is all or nothing: an exception, one that `E` admits, with the
    record left as it was; or success with a coherent record. -/
def Record.Atomic (r : Record) (E : PyErr → Prop) (res : Record × Except PyErr Unit) : Prop :=
  (∃ e, res = (r, .error e) ∧ E e) ∨ (∃ r', res = (r', .ok ()) ∧ r'.Inv)

section
variable {r : Record} {E : PyErr → Prop} {res : Record × Except PyErr Unit}

theorem Record.Atomic.inv (a : r.Atomic E res) (h : r.Inv) : res.1.Inv := by
  obtain ⟨_, rfl, _⟩ | ⟨_, rfl, h'⟩ := a
  · exact h
  · exact h'

theorem Record.Atomic.noop (a : r.Atomic E res) {e : PyErr} (he : res.2 = .error e) : res.1 = r := by
  obtain ⟨_, rfl, _⟩ | ⟨_, rfl, _⟩ := a
  · rfl
  · cases he

theorem Record.Atomic.error (a : r.Atomic E res) {e : PyErr} (he : res.2 = .error e) : E e := by
  obtain ⟨_, rfl, hE⟩ | ⟨_, rfl, _⟩ := a
  · cases he; exact hE
  · cases he

theorem Record.Atomic.mono {E' : PyErr → Prop} (a : r.Atomic E res) (hE : ∀ e, E e → E' e) :
    r.Atomic E' res :=
  a.imp_left fun ⟨e, he, h⟩ => ⟨e, he, hE e h⟩

end

theorem setItem_atomic {r : Record} (h : r.Inv) (key : RKey) (x : RCol) :
    r.Atomic (fun e => e = .key ∨ e = .value ∨ e = .type) (r.setItem key x) :=
  (setItem_cases h key x).imp_right fun ⟨x', n, hi, hocc, hold, he⟩ => ⟨_, he, h.insert x' n hi hocc hold⟩

theorem Record.Inv.setItem {r : Record} (h : r.Inv) (key : RKey) (x : RCol) :
    (r.setItem key x).1.Inv :=
  (setItem_atomic h key x).inv h

/-- the exceptions of `delItem` are those of the lookup; finding nothing is a `KeyError` -/
theorem delItem_atomic {r : Record} (h : r.Inv) (key : RKey) :
    r.Atomic (fun e => r.getItem key = .error e ∨ (r.getItem key = .ok none ∧ e = .key)) (r.delItem key) :=
  (delItem_cases h key).imp_right fun ⟨c, n, s', _, hs, hs', hl, he⟩ => ⟨_, he, h.remove c n hs s' hs' hl⟩

/-- `popitem()` is a deletion by name, hence fails with `KeyError` only -/
theorem popItem_atomic {r : Record} (h : r.Inv) : r.Atomic (· = .key) r.popItem := by
  unfold Record.popItem
  split
  · exact Or.inl ⟨_, rfl, rfl⟩
  · exact (delItem_atomic h .none).mono fun e he => he.elim nofun And.right
  · next k _ _ =>
    refine (delItem_atomic h (.name k)).mono fun e he => he.elim (fun hg => ?_) And.right
    simp only [Record.getItem] at hg
    split at hg <;> cases hg
    rfl

/-- `clear()` never raises on a coherent record - every failure of `popitem()` is the `KeyError` it
    swallows - and leaves it coherent, however many rounds it makes -/
theorem clear_spec {r : Record} (h : r.Inv) (fuel : Nat) :
    (Record.clear fuel r).1.Inv ∧ (Record.clear fuel r).2 = .ok () := by
  induction fuel generalizing r with
  | zero => exact ⟨h, rfl⟩
  | succ n ih =>
    unfold Record.clear
    obtain ⟨_, hp, rfl⟩ | ⟨r', hp, h'⟩ := popItem_atomic h
    · rw [hp]; exact ⟨h, rfl⟩
    · rw [hp]; exact ih h'

/-! ### the values of the name map, sorted by index, are the occupied slots in order -/

/-- `column_index` as the sort key of `MafRecord.validate` -/
def RCol.idx (c : RCol) : Int := c.col.index.getD 0

theorem mem_filterMap_id_iff {l : List (Option RCol)} {c : RCol} :
    c ∈ l.filterMap id ↔ ∃ i : Nat, l[i]? = some (some c) := by
  rw [List.mem_filterMap]
  simp only [id, exists_eq_right, List.mem_iff_getElem?]

theorem Record.Inv.mem_vals {r : Record} (h : r.Inv) {c : RCol} :
    c ∈ r.dict.map (·.2) ↔ ∃ i : Nat, r.slots[i]? = some (some c) := by
  rw [List.mem_map]
  constructor
  · rintro ⟨p, hp, rfl⟩
    obtain ⟨_, i, _, hs⟩ := h.dict_ok p hp
    exact ⟨i, hs⟩
  · rintro ⟨i, hi⟩
    exact ⟨_, mem_of_tdictGet (h.slot_ok i c hi).2, rfl⟩

theorem Record.Inv.occ_pairwise {r : Record} (h : r.Inv) :
    (r.slots.filterMap id).Pairwise (fun a b => a.idx < b.idx) := by
  rw [List.pairwise_filterMap, List.pairwise_iff_getElem]
  intro i j hi hj hij b hb b' hb'
  have e1 := (h.slot_ok i b (by rw [List.getElem?_eq_getElem hi]; exact congrArg some hb)).1
  have e2 := (h.slot_ok j b' (by rw [List.getElem?_eq_getElem hj]; exact congrArg some hb')).1
  simp only [RCol.idx, e1, e2, Option.getD_some]
  omega

theorem Record.Inv.vals_nodup {r : Record} (h : r.Inv) : (r.dict.map (·.2)).Nodup := by
  have hn := h.nodup
  rw [List.nodup_iff_pairwise_ne, List.pairwise_map] at hn ⊢
  refine hn.imp_of_mem fun {p q} hp hq hne e => hne ?_
  rw [← (h.dict_ok p hp).1, ← (h.dict_ok q hq).1, e]

theorem Record.Inv.vals_perm_occ {r : Record} (h : r.Inv) :
    (r.dict.map (·.2)).Perm (r.slots.filterMap id) := by
  rw [List.perm_ext_iff_of_nodup h.vals_nodup]
  · intro c; rw [h.mem_vals, mem_filterMap_id_iff]
  · exact List.nodup_iff_pairwise_ne.2 (h.occ_pairwise.imp fun hab e => absurd (e ▸ hab) (Int.lt_irrefl _))

theorem Record.Inv.sorted_values {r : Record} (h : r.Inv) :
    (r.dict.map (·.2)).mergeSort (fun a b => decide (a.idx ≤ b.idx)) = r.slots.filterMap id := by
  have hperm := (List.mergeSort_perm (r.dict.map (·.2)) (fun a b => decide (a.idx ≤ b.idx))).trans
    h.vals_perm_occ
  have hsorted := List.pairwise_mergeSort (le := fun (a b : RCol) => decide (a.idx ≤ b.idx))
    (by intro a b c; simp only [decide_eq_true_eq]; omega)
    (by intro a b; simp only [Bool.or_eq_true, decide_eq_true_eq]; omega)
    (r.dict.map (·.2))
  refine List.Perm.eq_of_pairwise (le := fun (a b : RCol) => decide (a.idx ≤ b.idx) = true) ?_
    hsorted (h.occ_pairwise.imp fun hab => by simp only [decide_eq_true_eq]; omega) hperm
  -- two stored columns with one index sit in one slot
  intro a b ha hb hab hba
  simp only [decide_eq_true_eq] at hab hba
  obtain ⟨i, hi⟩ := mem_filterMap_id_iff.1 (hperm.mem_iff.1 ha)
  obtain ⟨j, hj⟩ := mem_filterMap_id_iff.1 hb
  simp only [RCol.idx, (h.slot_ok i a hi).1, (h.slot_ok j b hj).1, Option.getD_some] at hab hba
  obtain rfl : i = j := by omega
  simpa [hi] using hj

theorem filterMap_id_length_of_no_none (l : List (Option RCol))
    (hl : l.any (·.isNone) = false) : (l.filterMap id).length = l.length := by
  induction l with
  | nil => rfl
  | cons o l ih =>
    cases o with
    | none => simp at hl
    | some c =>
      simp only [List.any_cons, Option.isNone_some, Bool.false_or] at hl
      simp [ih hl]

/-- the internal consistency checks of `MafRecord.validate` find nothing in a coherent
    record without an empty slot -/
theorem Record.Inv.syncErrors {r : Record} (h : r.Inv)
    (hfull : r.slots.any (·.isNone) = false) : r.syncErrors = [] := by
  have hlen : r.dict.length = r.slots.length := by
    simpa [filterMap_id_length_of_no_none _ hfull] using h.vals_perm_occ.length_eq
  simp only [Record.syncErrors, List.append_eq_nil_iff, List.filterMap_eq_nil_iff]
  constructor
  · rw [if_pos]
    rw [Bool.and_eq_true, decide_eq_true_eq, List.all_eq_true]
    refine ⟨hlen, ?_⟩
    intro o ho
    cases o with
    | none => rfl
    | some c =>
      obtain ⟨i, hi⟩ := List.mem_iff_getElem?.1 ho
      simp [(h.slot_ok i c hi).2]
  · rintro ⟨o, i⟩ hp
    rw [List.mem_zipIdx_iff_getElem?] at hp
    cases o with
    | none => rfl
    | some c => simp [(h.slot_ok i c hp).1]

/-- without a (truthy) scheme the framing check is off -/
theorem Record.columnErrors_of_not_truthy (C : Ctx) (r : Record) (scheme : Option Scheme) (c : RCol)
    (h : scheme.filter Scheme.truthy = none) :
    r.columnErrors C scheme c = c.col.validate C scheme none := by
  simp [Record.columnErrors, h]

theorem Record.columnErrors_none (C : Ctx) (r : Record) (c : RCol) :
    r.columnErrors C none c = c.col.validate C none none :=
  r.columnErrors_of_not_truthy C none c rfl

theorem mapM_ok_length {α β ε : Type} (f : α → Except ε β) (l : List α) (ys : List β)
    (h : l.mapM f = .ok ys) : ys.length = l.length := by
  induction l generalizing ys with
  | nil => cases h; rfl
  | cons a l ih =>
    rw [List.mapM_cons] at h
    cases hf : f a with
    | error e => simp [hf, bind, Except.bind] at h
    | ok b =>
      cases hm : l.mapM f with
      | error e => simp [hf, hm, bind, Except.bind] at h
      | ok bs =>
        simp only [hf, hm, bind, Except.bind, pure, Except.pure, Except.ok.injEq] at h
        subst h
        simp [ih bs hm]

end Model
