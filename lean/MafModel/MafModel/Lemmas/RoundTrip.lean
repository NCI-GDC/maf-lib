/-
  Lemmas behind C02 (files written by the library read back identically): a `MafWriter` writes a
  header and records, the bytes on the handle are cut into lines, a `MafReader` reads those lines.
  Everything ends in one theorem, `round_trip`, for any stringency and any scheme writer and reader
  agree on; the theorems of `Props/C02` are its instances.

  Trap.  The reader lemmas (`Lemmas/ReaderRecord.lean`, hence `ReaderLemmas`, `ReaderHeader`,
  `ReaderModes`, `ReaderExample`, C03, C16, C17, C19) and the lemmas imported here each declare,
  under the same name, `Model.fromLineStep`, `Model.fromLine_eq`, `Model.fromLine_spec`,
  `Model.processErrors_nonstrict` (`ReaderRecord` / `FromLineLemmas`),
  `Model.processErrors_strict_ok` (`ReaderRecord` / `WriterLemmas`), `Model.applyContigs_errors`,
  `Model.Header.set_errors` (`ReaderHeader` / `HeaderLemmas`), so no Lean file can import both
  sides.  This file is on the writer / `from_line` / header side and has, in the namespace
  `RoundTrip`, its own `stripped`, `headerBlock`, `headerLen`, `dataLines`, `At` (the same
  definitions as in `ReaderLemmas`) with the facts about `Reader.advance` / `readHeaderLines` /
  `Reader.init` it needs: what `__init__` does on a file of the shape a writer produces.
-/
import MafModel.Lemmas.WriterLemmas
import MafModel.Lemmas.HeaderLemmas
import MafModel.Props.C13
open Py Model

namespace RoundTrip

/-! ## 1. the file as a list of lines -/

/-- The lines of a text as Python's iteration over a text handle yields them (no newline
    translation): the text is split *after* each LF; a final segment without LF is a line too, an
    empty final segment is not. -/
def fileLines : Text → List Text
  | [] => []
  | c :: cs =>
    if c = '\n' then ['\n'] :: fileLines cs
    else match fileLines cs with
      | [] => [[c]]
      | l :: ls => (c :: l) :: ls

theorem flatten_fileLines (s : Text) : (fileLines s).flatten = s := by
  fun_induction fileLines s <;> simp_all

theorem fileLines_shape (s : Text) :
    ∀ l ∈ fileLines s, l ≠ [] ∧ '\n' ∉ l.dropLast := by
  fun_induction fileLines s with
  | case1 => simp
  | case2 cs ih => simpa using ih
  | case3 c cs hc h ih => simp
  | case4 c cs hc l ls h ih =>
    rw [h] at ih
    intro l' hl'
    rcases List.mem_cons.1 hl' with rfl | hl'
    · have := ih l (by simp)
      refine ⟨by simp, ?_⟩
      rw [List.dropLast_cons_of_ne_nil this.1]
      simp only [List.mem_cons, not_or]
      exact ⟨fun e => hc e.symm, this.2⟩
    · exact ih l' (by simp [hl'])

theorem fileLines_line (l rest : Text) (h : '\n' ∉ l) :
    fileLines (l ++ '\n' :: rest) = (l ++ ['\n']) :: fileLines rest := by
  induction l with
  | nil => simp [fileLines]
  | cons c cs ih =>
    rw [List.mem_cons, not_or] at h
    rw [List.cons_append, fileLines, if_neg (Ne.symm h.1), ih h.2]
    rfl

theorem fileLines_flatten (ls : List Text) (h : ∀ l ∈ ls, '\n' ∉ l) :
    fileLines (ls.map (· ++ ['\n'])).flatten = ls.map (· ++ ['\n']) := by
  induction ls with
  | nil => rfl
  | cons l r ih =>
    rw [List.forall_mem_cons] at h
    simp only [List.map_cons, List.flatten_cons, List.append_assoc, List.singleton_append]
    rw [fileLines_line l _ h.1, ih h.2]

/-- a line that, written with an LF, the reader strips back to itself (`stripped_map_lf`) -/
def LineOK (l : Text) : Prop := '\n' ∉ l ∧ ∀ c, l.getLast? = some c → isCRLF c = false

theorem lineOK_of_clean {l : Text} (h : ∀ c ∈ l, c ≠ '\r' ∧ c ≠ '\n') : LineOK l := by
  refine ⟨fun hm => (h _ hm).2 rfl, fun c hc => ?_⟩
  have := h c (List.mem_of_getLast? hc)
  simp [isCRLF, this.1, this.2]

theorem lineOK_join {fields : List Text}
    (h : ∀ f ∈ fields, ∀ c ∈ f, c ≠ '\t' ∧ c ≠ '\n' ∧ c ≠ '\r') : LineOK (joinWith '\t' fields) :=
  lineOK_of_clean (joinWith_tab_clean fields (fun f hf c hc => ⟨(h f hf c hc).2.2, (h f hf c hc).2.1⟩))

/-! ## 2. the reader's `__init__` -/

def stripped (lines : List Text) : List Text := lines.map rstripCRLF

def headerBlock (K : HConsts) (lines : List Text) : List Text :=
  (stripped lines).takeWhile (fun l => decide (l.head? = some K.startSymbol))

def headerLen (K : HConsts) (lines : List Text) : Nat := (headerBlock K lines).length

def dataLines (K : HConsts) (lines : List Text) : List Text := (stripped lines).drop (headerLen K lines + 1)

@[simp] theorem stripped_length (lines : List Text) : (stripped lines).length = lines.length :=
  List.length_map _

theorem headerBlock_eq_take (K : HConsts) (lines : List Text) :
    headerBlock K lines = (stripped lines).take (headerLen K lines) :=
  List.prefix_iff_eq_take.1 (List.takeWhile_prefix _)

theorem not_header_at_headerLen (K : HConsts) (lines : List Text) (l : Text)
    (h : (stripped lines)[headerLen K lines]? = some l) : l.head? ≠ some K.startSymbol := by
  unfold headerLen headerBlock at h
  generalize stripped lines = S at h
  induction S with
  | nil => simp at h
  | cons a S ih =>
    by_cases ha : a.head? = some K.startSymbol
    · simp only [List.takeWhile_cons, ha, decide_true, if_true, List.length_cons,
        List.getElem?_cons_succ] at h
      exact ih h
    · simp only [List.takeWhile_cons, ha, decide_false, Bool.false_eq_true, if_false,
        List.length_nil, List.getElem?_cons_zero, Option.some.injEq] at h
      subst h; exact ha

theorem header_of_mem_headerBlock (K : HConsts) (lines : List Text) (l : Text)
    (h : l ∈ headerBlock K lines) : l.head? = some K.startSymbol :=
  of_decide_eq_true (List.all_eq_true.1 List.all_takeWhile l h)

/-! ### the file a writer produces, as the reader sees it -/

theorem stripped_map_lf {ls : List Text} (h : ∀ l ∈ ls, LineOK l) :
    stripped (ls.map (· ++ ['\n'])) = ls := by
  unfold stripped
  rw [List.map_map]
  exact (List.map_congr_left fun l hl => rstripChars_append_all _ _ _ (h l hl).2 (by decide)).trans
    (List.map_id ls)

theorem headerBlock_map_lf {K : HConsts} {hl body : List Text} (h : ∀ l ∈ hl ++ body, LineOK l)
    (hh : ∀ l ∈ hl, l.head? = some K.startSymbol)
    (hb : ∀ l, body.head? = some l → l.head? ≠ some K.startSymbol) :
    headerBlock K ((hl ++ body).map (· ++ ['\n'])) = hl := by
  unfold headerBlock
  rw [stripped_map_lf h, List.takeWhile_append_of_pos (fun l hl' => decide_eq_true (hh l hl'))]
  cases body with
  | nil => exact List.append_nil hl
  | cons l _ => rw [List.takeWhile_cons_of_neg (by simpa using hb l rfl), List.append_nil]

/-! ### `advance` and the position of the look-ahead -/

/-- `__next_line__` without the case distinction -/
theorem advance_eq (r : Reader) :
    r.advance = { r with src := r.src.tail, next := r.src.head?.map rstripCRLF,
                         lineNo := r.lineNo + (if r.src = [] then 0 else 1), pulled := r.pulled + 1 } := by
  unfold Reader.advance
  cases r.src <;> rfl

theorem advance_with (r : Reader) (h : Header) (s : Option Scheme) (es : List VErr) (m : Mode)
    (lg : List LogRec) :
    ({ r with header := h, scheme := s, errors := es, mode := m, logs := lg } : Reader).advance =
      { r.advance with header := h, scheme := s, errors := es, mode := m, logs := lg } := by
  unfold Reader.advance
  cases r.src <;> rfl

/-- the look-ahead stands at (0-based) line `p`, if there is one; the line counter is the number
    of lines really read, so it stops at the end of the input while the pulls go on -/
structure At (lines : List Text) (r : Reader) (p : Nat) : Prop where
  pulled : r.pulled = p + 1
  src : r.src = lines.drop (p + 1)
  lineNo : r.lineNo = min (p + 1) lines.length
  next : r.next = (stripped lines)[p]?

theorem At.advance {lines : List Text} {r : Reader} {p : Nat} (h : At lines r p) :
    At lines r.advance (p + 1) := by
  rw [advance_eq]
  refine ⟨congrArg (· + 1) h.pulled, ?_, ?_, ?_⟩
  · simp only [h.src, List.tail_drop]
  · simp only [h.src, h.lineNo, List.drop_eq_nil_iff]
    split <;> omega
  · simp only [h.src, List.head?_drop, stripped, List.getElem?_map]

theorem At.src_length {lines : List Text} {r : Reader} {p : Nat} (h : At lines r p) :
    r.src.length + min r.pulled lines.length = lines.length := by
  rw [h.src, h.pulled, List.length_drop]; omega

theorem At.next_none_iff {lines : List Text} {r : Reader} {p : Nat} (h : At lines r p) :
    r.next = none ↔ lines.length ≤ p := by
  rw [h.next, List.getElem?_eq_none_iff, stripped_length]

theorem readHeaderLines_spec (K : HConsts) :
    ∀ (fuel : Nat) (r : Reader) (acc : List Text), r.src.length < fuel →
      readHeaderLines K fuel r acc =
        ({ r with src := r.src.drop ((headerBlock K r.src).length + 1),
                  pulled := r.pulled + (headerBlock K r.src).length + 1,
                  next := (stripped r.src)[(headerBlock K r.src).length]?,
                  lineNo := r.lineNo + min ((headerBlock K r.src).length + 1) r.src.length },
         acc ++ headerBlock K r.src) := by
  intro fuel
  induction fuel with
  | zero => intro r acc h; omega
  | succ fuel ih =>
    intro r acc hf
    obtain ⟨src, pulled, next, lineNo, header, scheme, errors, mode, logs⟩ := r
    cases src with
    | nil =>
      simp [readHeaderLines, Reader.advance, headerBlock, stripped]
    | cons l ls =>
      simp only [List.length_cons] at hf
      by_cases hl : (rstripCRLF l).head? = some K.startSymbol
      · have hb : headerBlock K (l :: ls) = rstripCRLF l :: headerBlock K ls := by
          simp [headerBlock, stripped, hl]
        simp only [readHeaderLines, Reader.advance, hl, if_true, hb]
        rw [ih _ _ (by simp; omega)]
        simp [stripped]
        omega
      · have hb : headerBlock K (l :: ls) = [] := by
          simp [headerBlock, stripped, hl]
        simp [readHeaderLines, Reader.advance, hl, hb, stripped]

/-- `lines.length + 1` is the fuel `Reader.init` provides -/
theorem readHeaderLines_init (K : HConsts) (lines : List Text) (m : Mode) :
    readHeaderLines K (lines.length + 1) { src := lines, mode := m } [] =
      ({ src := lines.drop (headerLen K lines + 1), pulled := headerLen K lines + 1,
         next := (stripped lines)[headerLen K lines]?,
         lineNo := min (headerLen K lines + 1) lines.length, mode := m },
       headerBlock K lines) := by
  rw [readHeaderLines_spec K _ _ _ (by simp)]
  simp [headerLen]

theorem readHeaderLines_at (K : HConsts) (lines : List Text) (m : Mode) :
    ∃ r, readHeaderLines K (lines.length + 1) { src := lines, mode := m } [] = (r, headerBlock K lines) ∧
      At lines r (headerLen K lines) ∧ r.mode = m :=
  ⟨_, readHeaderLines_init K lines m, ⟨rfl, rfl, rfl, rfl⟩, rfl⟩

theorem scheme_restricted {K : HConsts} {R : Registry} {h : Header} {S : Scheme}
    (hs : h.scheme K R = some S) : S.noRestrictions = false := by
  unfold Header.scheme Registry.findScheme at hs
  split at hs
  · rename_i o ho
    split at ho
    · rename_i s' hf
      split at ho
      · cases ho; cases hs
      · rename_i hnr
        cases ho; cases hs
        simpa using hnr
    · rename_i hne
      subst hs
      cases hc : findSchemeClass R.schemes (Option.map String.ofList (Header.version K h))
          (Option.map String.ofList (Header.annotation K h)) with
      | error e => rw [hc] at ho; cases ho
      | ok o' =>
        rw [hc] at ho
        cases ho
        exact absurd hc (hne S)
  · cases hs

theorem zip_self_filterMap_ne {α β} [DecidableEq α] (l : List α) (b : β) :
    (l.zip l).filterMap (fun p => if p.1 ≠ p.2 then some b else none) = [] := by
  induction l with
  | nil => rfl
  | cons a l ih => simpa using ih

section
variable {C : Ctx} {K : HConsts} {R : Registry} {lines : List Text} {m : Mode} {h : Header}
  {hlogs lg : List LogRec}

/-- `MafReader(lines)` on a file with a column-name line `cl` whose header block parses to `h`
    without an exception.  `hsch`: `__update_scheme__` settles on `S`, the scheme `h` names or,
    when it names none, the unrestricted scheme of the column names.  `hpe`: the stringency lets
    the errors of `h` pass. -/
theorem init_of_columnLine {cl : Text} {S : Scheme}
    (hfl : Header.fromLines K R (headerBlock K lines) (some m) = (h, .ok hlogs))
    (hcl : (stripped lines)[headerLen K lines]? = some cl)
    (hsch : h.scheme K R = some S ∨
      h.scheme K R = none ∧ noRestrictionsScheme ((splitOn '\t' cl).map String.ofList) = S)
    (hnames : S.names.map String.toList = splitOn '\t' cl)
    (hpe : processErrors m h.errors = .ok lg) :
    ∃ rd, Reader.init C K R lines (some m) none = .ok rd ∧ At lines rd (headerLen K lines + 1) ∧
      rd.header = h ∧ rd.scheme = some S ∧ rd.errors = h.errors ∧ rd.mode = m := by
  obtain ⟨r1, hr1, hat, hm⟩ := readHeaderLines_at K lines m
  have hadv := hat.advance
  have hsch2 (w : List LogRec) :
      (if (h.scheme K R).isNone ∨ (h.scheme K R).map (·.noRestrictions) = some true then
        (some (noRestrictionsScheme ((splitOn '\t' cl).map String.ofList)), w)
        else (h.scheme K R, [])).1 = some S := by
    rcases hsch with hs | ⟨hs, rfl⟩
    · simp [hs, scheme_restricted hs]
    · simp [hs]
  unfold Reader.init
  simp only [modeOrSilent, hr1, hfl, advance_with]
  -- `hsch2` is stated for any warning list `w`: the one in the goal carries a `Decidable` instance
  -- about `modeOrSilent (some m)` that `simp` does not rewrite
  simp only [hat.next.trans hcl, hsch2, hnames]
  simp only [ne_eq, not_true_eq_false, if_false, zip_self_filterMap_ne, List.append_nil, hpe]
  exact ⟨_, rfl, ⟨hadv.pulled, hadv.src, hadv.lineNo, hadv.next⟩, rfl, rfl, rfl, hm⟩

/-- `MafReader(lines)` on a file that ends with its header block (`hlen`) -/
theorem init_of_no_columnLine
    (hfl : Header.fromLines K R (headerBlock K lines) (some m) = (h, .ok hlogs))
    (hlen : lines.length = headerLen K lines)
    (hpe : processErrors m (h.errors ++
      [{ tpe := "HEADER_MISSING_COLUMN_NAMES", line := some (headerLen K lines + 1),
         origin := some (headerLen K lines + 1) }]) = .ok lg) :
    ∃ rd, Reader.init C K R lines (some m) none = .ok rd ∧ rd.next = none ∧ rd.header = h ∧
      rd.scheme = h.scheme K R ∧
      rd.errors = h.errors ++
        [{ tpe := "HEADER_MISSING_COLUMN_NAMES", line := some (headerLen K lines + 1),
           origin := some (headerLen K lines + 1) }] := by
  obtain ⟨r1, hr1, hat, -⟩ := readHeaderLines_at K lines m
  have hnext : r1.next = none := hat.next_none_iff.2 (Nat.le_of_eq hlen)
  have hln : r1.lineNo = headerLen K lines := by rw [hat.lineNo]; omega
  unfold Reader.init
  simp only [modeOrSilent, hr1, hfl]
  simp only [hnext, hln, List.append_nil]
  unfold headerLen at hpe ⊢
  rw [hpe]
  exact ⟨_, rfl, rfl, rfl, rfl, rfl⟩
end

/-! ## 3. one record: what is written, and what reading it back gives -/

/-- "the value of the column is the value its own text denotes under the scheme's class at
    position `i`" — true of every value obtained by parsing (`stable_of_parsed` in `Props/C02`),
    not of every value built through the API (`"007"` in a `StringOrIntegerColumn` prints `007`,
    which denotes the integer 7) -/
def ColStable (C : Ctx) (S : Scheme) (i : Nat) (c : Column) : Prop :=
  ∀ n cls sp t, S.cols[i]? = some (n, cls) → resolveSpec C.tbl cls = some sp → c.render C = .ok t →
    sp.accept C (plainOk cls) t = some c.value

def RecStable (C : Ctx) (S : Scheme) (r : Record) : Prop :=
  ∀ i c, r.slots[i]? = some (some c) → ColStable C S i c.col

/-- stated in Strict mode, but the verdict does not depend on the stringency
    (`validate_errors_mode`, `validate_ok_of_errors_nil`) -/
def Valid (C : Ctx) (S : Scheme) (r : Record) : Prop :=
  (r.validate C (some .strict) true (some S)).2 = .ok []

def cells (r : Record) : List (Option (Text × PyVal)) :=
  r.slots.map (fun o => o.map (fun c => (c.col.key, c.col.value)))

/-- what `Valid C S r` and a successful `str(r)` give (`emitted_of_valid`); `str(r)` is then the
    TAB-join of `fields` (`Emitted.render`) -/
structure Emitted (C : Ctx) (S : Scheme) (r : Record) (fields : List Text) : Prop where
  flen : fields.length = S.size
  slen : r.slots.length = S.size
  cols : ∀ i, i < S.size → ∃ c f, r.slots[i]? = some (some c) ∧ fields[i]? = some f ∧
    ColValidAt C S i c.col ∧ c.col.render C = .ok f ∧ hasFieldSep f = false

theorem emitted_of_valid {C : Ctx} {S : Scheme} {r : Record} (hS : S.truthy = true)
    (hv : Valid C S r) {t : Text} (ht : r.render C = .ok t) :
    ∃ fields, t = joinWith '\t' fields ∧ Emitted C S r fields := by
  obtain ⟨_, _, hlen, _, hcols⟩ := Record.validate_strict_ok hS hv
  obtain ⟨fields, ht', hfl, hfi⟩ := Record.render_ok_fields ht
  refine ⟨fields, ht', hfl.trans hlen, hlen, fun i hi => ?_⟩
  obtain ⟨c, hc, hvalid⟩ := hcols i hi
  obtain ⟨f, hf, hcf⟩ := hfi i c hc
  exact ⟨c, f, hc, hf, hvalid, hcf, hvalid.framed f hcf⟩

theorem validate_errors_mode (C : Ctx) (r : Record) (m m' : Option Mode) (b : Bool) (s : Option Scheme) :
    (r.validate C m b s).1.errors = (r.validate C m' b s).1.errors := rfl

theorem validate_ok_of_errors_nil {C : Ctx} {r : Record} {m : Mode} {b : Bool} {s : Option Scheme}
    (h : (r.validate C (some m) b s).1.errors = []) : (r.validate C (some m) b s).2 = .ok [] := by
  show processErrors m (r.validate C (some m) b s).1.errors = _
  rw [h]
  cases m <;> rfl

theorem valid_iff_errors {C : Ctx} {S : Scheme} {r : Record} :
    Valid C S r ↔ (r.validate C (some .strict) true (some S)).1.errors = [] :=
  ⟨fun h => (Model.processErrors_strict_ok
    (errs := (r.validate C (some .strict) true (some S)).1.errors) h).1, validate_ok_of_errors_nil⟩

theorem valid_of_strict_ok {C : Ctx} {S : Scheme} {r : Record} (hS : S.truthy = true)
    {logs : List LogRec} (hv : (r.validate C (some .strict) true (some S)).2 = .ok logs) :
    Valid C S r := by
  obtain rfl := (Record.validate_strict_ok hS hv).2.1
  exact hv

/-! ### `Record.render` from the texts of the slots -/

theorem render_of_fields {C : Ctx} {r : Record} {fields : List Text}
    (hlen : r.slots.length = fields.length)
    (h : ∀ (i : Nat) (f : Text), fields[i]? = some f →
      ∃ c : RCol, r.slots[i]? = some (some c) ∧ c.col.render C = .ok f) :
    r.render C = .ok (joinWith '\t' fields) := by
  unfold Record.render
  rw [mapM_eq_ok_of_getElem _ r.slots fields hlen]
  · rfl
  · intro i o f ho hf
    obtain ⟨c, hc, hr⟩ := h i f hf
    obtain rfl := Option.some.inj (ho.symm.trans hc)
    exact hr

theorem Emitted.lt {C : Ctx} {S : Scheme} {r : Record} {fields : List Text} (h : Emitted C S r fields)
    {i : Nat} {f : Text} (hf : fields[i]? = some f) : i < S.size :=
  h.flen ▸ (List.getElem?_eq_some_iff.1 hf).1

theorem Emitted.render {C : Ctx} {S : Scheme} {r : Record} {fields : List Text}
    (h : Emitted C S r fields) : r.render C = .ok (joinWith '\t' fields) := by
  apply render_of_fields (h.slen.trans h.flen.symm)
  intro i f hf
  obtain ⟨c, f', hc, hf', _, hr, _⟩ := h.cols i (h.lt hf)
  obtain rfl := Option.some.inj (hf.symm.trans hf')
  exact ⟨c, hc, hr⟩

theorem Emitted.clean {C : Ctx} {S : Scheme} {r : Record} {fields : List Text}
    (h : Emitted C S r fields) : ∀ f ∈ fields, ∀ ch ∈ f, ch ≠ '\t' ∧ ch ≠ '\n' ∧ ch ≠ '\r' := by
  intro f hf
  obtain ⟨i, hi⟩ := List.mem_iff_getElem?.1 hf
  obtain ⟨c, f', _, hf', _, _, hsep⟩ := h.cols i (h.lt hi)
  obtain rfl := Option.some.inj (hi.symm.trans hf')
  exact hasFieldSep_eq_false.1 hsep

/-! ### reading the printed record back -/

theorem fromLine_accepts_eq {C : Ctx} {S : Scheme} (hS : SchemeOKGen C S)
    (fields : List Text) (hlen : fields.length = S.size)
    (hclean : ∀ f ∈ fields, ∀ c ∈ f, c ≠ '\t' ∧ c ≠ '\n' ∧ c ≠ '\r')
    (hall : AllAccepted C S fields) (lineNo : Option Nat) (m : Mode) :
    Record.fromLine C (joinWith '\t' fields) none (some S) lineNo (some m)
        = .ok (accRec C S fields lineNo m S.size, []) := by
  have hfields : splitOn '\t' (rstripCRLF (joinWith '\t' fields)) = fields := by
    have := fieldsOf_join (hlen ▸ hS.pos) (fun f hf => hasFieldSep_eq_false.2 (hclean f hf)) (.inl rfl)
    rwa [List.append_nil] at this
  rw [fromLine_eq]
  simp only [hfields]
  have hn : ¬ ((S.names.map String.toList).length ≠ fields.length) := by
    simp [Scheme.names, hlen, Scheme.size]
  simp only [hn, if_false]
  obtain ⟨h1, h2, h3⟩ := fromLine_loop_accept hS fields hlen hall lineNo (modeOrSilent (some m))
    S.size (Nat.le_refl _)
  rw [List.take_of_length_le (by simp [Scheme.names, hlen, Scheme.size])] at h1
  rw [h1]
  simp only
  rw [validate_spec C _ h2 h3]
  have hnv : noValueErrs (accRec C S fields lineNo (modeOrSilent (some m)) S.size).line
      (accRec C S fields lineNo (modeOrSilent (some m)) S.size).slots = [] := by
    rw [noValueErrs_eq_nil_iff]
    simp [accRec]
  rw [hnv]
  simp only [accRec, List.append_nil, modeOrSilent, processErrors]

def PlainRenders (C : Ctx) : Prop :=
  ∀ sp, resolveSpec C.tbl "MafColumnRecord" = some sp →
    ∀ t : Text, sp.render C.enums (.atom (.str t)) = .ok t

/-- a decidable sufficient condition: the base class has no null dictionary and inherits the base
    `__string_it__` (`str(value)`) -/
theorem plainRenders_of_check {C : Ctx}
    (h : (match resolveSpec C.tbl "MafColumnRecord" with
          | some sp => sp.nullDict == none && sp.stringChain.head? == some "MafColumnRecord"
          | none => true) = true) : PlainRenders C := by
  intro sp hsp t
  rw [hsp] at h
  simp only [Bool.and_eq_true, beq_iff_eq] at h
  obtain ⟨h1, h2⟩ := h
  cases hc : sp.stringChain with
  | nil => rw [hc] at h2; cases h2
  | cons c rest =>
    rw [hc] at h2
    simp only [List.head?_cons, Option.some.injEq] at h2
    subst h2
    simp [ColSpec.render, h1, runString, hc, pyStr, atomStr]

section
variable {C : Ctx} {S : Scheme} {r : Record} {fields : List Text}

theorem allAccepted_of_stable (he : Emitted C S r fields) (hst : RecStable C S r) :
    AllAccepted C S fields := by
  intro i n cls sp f hp hsp hf
  obtain ⟨c, f', hc, hf', _, hr, _⟩ := he.cols i (he.lt hf)
  obtain rfl := Option.some.inj (hf.symm.trans hf')
  rw [hst i c hc n cls sp f hp hsp hr]
  rfl

theorem fieldCol_render (hS : SchemeOKGen C S) (hP : PlainRenders C)
    {i : Nat} {n cls : String} {sp : ColSpec} {c : Column} {f : Text}
    (hp : S.cols[i]? = some (n, cls)) (hsp : resolveSpec C.tbl cls = some sp)
    (hvalid : ColValidAt C S i c) (hr : c.render C = .ok f)
    (hacc : sp.accept C (plainOk cls) f = some c.value) :
    (fieldCol i n cls c.value).col.render C = .ok f := by
  have hfc : (fieldCol i n cls c.value).col.render C = sp.render C.enums c.value := by
    simp [Column.render, fieldCol, hsp]
  rw [hfc]
  rcases hvalid.twin n cls hp with heq | heq | ⟨_, htr⟩
  · rw [← hr]
    simp [Column.render, heq, hsp]
  · subst heq
    obtain ⟨sp', hsp', _, hcase⟩ := hS.cls_ok _ (List.mem_of_getElem? hp)
    simp only at hsp' hcase
    rw [hsp] at hsp'; cases hsp'
    rcases hcase with ⟨hne, _⟩ | ⟨_, hb, _⟩
    · exact absurd rfl hne
    · have : sp.accept C (plainOk "MafColumnRecord") f = some (.atom (.str f)) := by
        simp [ColSpec.accept, ColSpec.buildValue, hb, plainOk]
      rw [this] at hacc
      injection hacc with hacc
      rw [← hacc]
      exact hP sp hsp f
  · rw [hr] at htr
    have := exceptTextEq_ok htr
    simpa [Column.render, hsp] using this

theorem fieldCol_columnErrors (hS : SchemeOKGen C S) (q : Record) {i : Nat} {n cls : String}
    {sp : ColSpec} {v : PyVal} {f : Text} (hp : S.cols[i]? = some (n, cls))
    (hsp : resolveSpec C.tbl cls = some sp) (hacc : sp.accept C (plainOk cls) f = some v)
    (hr : (fieldCol i n cls v).col.render C = .ok f) (hsep : hasFieldSep f = false) :
    q.columnErrors C (some S) (fieldCol i n cls v) = [] := by
  have hval := (fromLineStep_accept hS none q f hp hsp hacc).2
  obtain ⟨hvi, _⟩ := Column.validate_nil hval
  obtain ⟨sp', hsp', hsub, _⟩ := hS.cls_ok _ (List.mem_of_getElem? hp)
  simp only at hsub
  have hfil : (some S).filter Scheme.truthy = some S := Scheme.truthy_filter hS.truthy
  have hcc := Scheme.columnClass_of_getElem? hS.nodup hp
  have hci := Scheme.columnIndex_of_getElem? hS.nodup hp
  have hsch : Column.schemeErrors C (fieldCol i n cls v).col (some S) none = [] := by
    simp [Column.schemeErrors, fieldCol, hfil, String.ofList_toList, hcc, hci, hsub]
  unfold Record.columnErrors
  simp [Column.validate, hvi, hsch, hfil, hr, hsep]

/-- `RecStable` is what makes the value come back: the field is the written column's own text. -/
theorem accCol_spec (hS : SchemeOKGen C S) (hP : PlainRenders C) (he : Emitted C S r fields)
    (hst : RecStable C S r) {i : Nat} (hi : i < S.size) :
    ∃ c f, r.slots[i]? = some (some c) ∧ fields[i]? = some f ∧
      (accCol C S fields i).col.key = c.col.key ∧ (accCol C S fields i).col.value = c.col.value ∧
      (accCol C S fields i).col.render C = .ok f ∧
      ∀ q : Record, q.columnErrors C (some S) (accCol C S fields i) = [] := by
  obtain ⟨c, f, hc, hf, hvalid, hr, hsep⟩ := he.cols i hi
  obtain ⟨n, cls, hp, hk, _⟩ := hvalid.pos
  obtain ⟨sp, hsp, _⟩ := hS.cls_ok _ (List.mem_of_getElem? hp)
  have hacc := hst i c hc n cls sp f hp hsp hr
  have hcol : accCol C S fields i = fieldCol i n cls c.col.value := by
    simp [accCol, hp, hf, hsp, hacc]
  have hren := fieldCol_render hS hP hp hsp hvalid hr hacc
  rw [hcol]
  exact ⟨c, f, hc, hf, hk.symm, rfl, hren, fun q => fieldCol_columnErrors hS q hp hsp hacc hren hsep⟩

end

/-! ### the record read back -/

abbrev reread (C : Ctx) (S : Scheme) (fields : List Text) (lineNo : Option Nat) (m : Mode) : Record :=
  accRec C S fields lineNo m S.size

theorem reread_slot (C : Ctx) (S : Scheme) (fields : List Text) (lineNo : Option Nat) (m : Mode)
    {i : Nat} (hi : i < S.size) :
    (reread C S fields lineNo m).slots[i]? = some (some (accCol C S fields i)) := by
  simp [reread, accRec, List.getElem?_map, List.getElem?_range hi]

theorem reread_slots_length (C : Ctx) (S : Scheme) (fields : List Text) (lineNo : Option Nat) (m : Mode) :
    (reread C S fields lineNo m).slots.length = S.size := by
  simp [reread, accRec]

theorem reread_errors (C : Ctx) (S : Scheme) (fields : List Text) (lineNo : Option Nat) (m : Mode) :
    (reread C S fields lineNo m).errors = [] := rfl

section
variable {C : Ctx} {S : Scheme} {r : Record} {fields : List Text}

theorem reread_render (hS : SchemeOKGen C S) (hP : PlainRenders C) (he : Emitted C S r fields)
    (hst : RecStable C S r) (lineNo : Option Nat) (m : Mode) :
    (reread C S fields lineNo m).render C = .ok (joinWith '\t' fields) := by
  apply render_of_fields ((reread_slots_length ..).trans he.flen.symm)
  intro i f hf
  obtain ⟨_, f', _, hf', _, _, hr, _⟩ := accCol_spec hS hP he hst (he.lt hf)
  obtain rfl := Option.some.inj (hf.symm.trans hf')
  exact ⟨_, reread_slot C S fields lineNo m (he.lt hf), hr⟩

theorem reread_cells (hS : SchemeOKGen C S) (hP : PlainRenders C) (he : Emitted C S r fields)
    (hst : RecStable C S r) (lineNo : Option Nat) (m : Mode) :
    cells (reread C S fields lineNo m) = cells r := by
  apply List.ext_getElem?
  intro i
  simp only [cells, List.getElem?_map]
  by_cases hi : i < S.size
  · obtain ⟨c, _, hc, _, hk, hv, _⟩ := accCol_spec hS hP he hst hi
    rw [reread_slot C S fields lineNo m hi, hc]
    simp only [Option.map_some, hk, hv]
  · rw [List.getElem?_eq_none (by rw [reread_slots_length]; omega),
      List.getElem?_eq_none (by rw [he.slen]; omega)]

theorem validate_errors_nil_of (hS : S.truthy = true) (q : Record) (hlen : q.slots.length = S.size)
    (hcols : ∀ i, i < S.size → ∃ c, q.slots[i]? = some (some c) ∧ q.columnErrors C (some S) c = [])
    (hsync : q.syncErrors = []) (m : Option Mode) :
    (q.validate C m true (some S)).1.errors = [] := by
  have hall : ∀ o ∈ q.slots, ∃ c, o = some c ∧ q.columnErrors C (some S) c = [] := by
    intro o ho
    obtain ⟨i, hi⟩ := List.mem_iff_getElem?.1 ho
    obtain ⟨c, hc, hce⟩ := hcols i (hlen ▸ (List.getElem?_eq_some_iff.1 hi).1)
    exact ⟨c, Option.some.inj (hi.symm.trans hc), hce⟩
  have hnone : q.slots.any (·.isNone) = false := by
    rw [List.any_eq_false]
    intro o ho
    obtain ⟨c, rfl, _⟩ := hall o ho
    simp
  simp only [Record.validate, if_true, Scheme.truthy_filter hS, List.nil_append,
    List.append_eq_nil_iff, hnone, Bool.false_eq_true, if_false]
  refine ⟨⟨?_, ?_⟩, hsync⟩
  · rw [if_neg]; omega
  · rw [List.flatMap_eq_nil_iff]
    intro o ho
    obtain ⟨c, rfl, hce⟩ := hall o ho
    exact hce

theorem reread_inv (hS : SchemeOKGen C S) (he : Emitted C S r fields) (hst : RecStable C S r)
    (lineNo : Option Nat) (m : Mode) : (reread C S fields lineNo m).Inv :=
  (fromLine_loop_accept hS fields he.flen (allAccepted_of_stable he hst) lineNo m S.size
    (Nat.le_refl _)).2.1

theorem reread_valid (hS : SchemeOKGen C S) (hP : PlainRenders C) (he : Emitted C S r fields)
    (hst : RecStable C S r) (lineNo : Option Nat) (m : Mode) (m' : Option Mode) :
    ((reread C S fields lineNo m).validate C m' true (some S)).1.errors = [] := by
  apply validate_errors_nil_of hS.truthy _ (reread_slots_length C S fields lineNo m) _
    ((reread_inv hS he hst lineNo m).syncErrors (by simp [reread, accRec]))
  intro i hi
  obtain ⟨_, _, _, _, _, _, _, hce⟩ := accCol_spec hS hP he hst hi
  exact ⟨_, reread_slot C S fields lineNo m hi, hce _⟩


/-- what "reads back identically" in C02 means for one record -/
def Reread (C : Ctx) (q r : Record) : Prop :=
  q.render C = r.render C ∧ (∃ t, r.render C = .ok t) ∧ cells q = cells r ∧ q.errors = [] ∧ q.Inv

theorem fromLine_rendered (hS : SchemeOKGen C S) (hP : PlainRenders C) (hv : Valid C S r)
    (hst : RecStable C S r) {t : Text} (ht : r.render C = .ok t) (lineNo : Option Nat) (m : Mode) :
    ∃ q, Record.fromLine C t none (some S) lineNo (some m) = .ok (q, []) ∧ Reread C q r ∧
      ∀ m', (q.validate C m' true (some S)).1.errors = [] := by
  obtain ⟨fields, rfl, he⟩ := emitted_of_valid hS.truthy hv ht
  exact ⟨reread C S fields lineNo m,
    fromLine_accepts_eq hS fields he.flen he.clean (allAccepted_of_stable he hst) lineNo m,
    ⟨(reread_render hS hP he hst lineNo m).trans ht.symm, ⟨_, ht⟩, reread_cells hS hP he hst lineNo m,
      rfl, reread_inv hS he hst lineNo m⟩,
    reread_valid hS hP he hst lineNo m⟩

theorem lineOK_rendered (hS : S.truthy = true) (hv : Valid C S r) {t : Text} (ht : r.render C = .ok t) :
    LineOK t := by
  obtain ⟨fields, rfl, he⟩ := emitted_of_valid hS hv ht
  exact lineOK_join he.clean

end

/-! ### the order checker sees the same record -/

theorem lookup_of_cells {r q : Record} (hr : r.Inv) (hq : q.Inv) (h : cells q = cells r)
    {name : Text} {c : RCol} (hc : tdictGet r.dict name = some c) :
    ∃ c', tdictGet q.dict name = some c' ∧ c'.col.value = c.col.value := by
  obtain ⟨hk, i, _, hs⟩ := hr.dict_ok _ (mem_of_tdictGet hc)
  simp only at hk hs
  have hi : (cells q)[i]? = (cells r)[i]? := by rw [h]
  simp only [cells, List.getElem?_map, hs, Option.map_some] at hi
  cases hqs : q.slots[i]? with
  | none => rw [hqs] at hi; cases hi
  | some o =>
    rw [hqs] at hi
    cases o with
    | none => simp at hi
    | some c' =>
      simp only [Option.map_some, Option.some.injEq, Prod.mk.injEq] at hi
      obtain ⟨_, hg⟩ := hq.slot_ok i c' hqs
      rw [hi.1, hk] at hg
      exact ⟨c', hg, hi.2⟩

/-- `record[name].value` through the name map is what `toLoc` and the order checker read -/
theorem value_of_cells {r q : Record} (hr : r.Inv) (hq : q.Inv) (h : cells q = cells r)
    (name : Text) : (tdictGet q.dict name).map (·.col.value) = (tdictGet r.dict name).map (·.col.value) := by
  cases hc : tdictGet r.dict name with
  | some c =>
    obtain ⟨c', hc', hv⟩ := lookup_of_cells hr hq h hc
    rw [hc', Option.map_some, hv]; rfl
  | none =>
    cases hc' : tdictGet q.dict name with
    | none => rfl
    | some c' =>
      obtain ⟨c, hc2, _⟩ := lookup_of_cells hq hr h.symm hc'
      rw [hc] at hc2; cases hc2

theorem addRecord_of_cells {r q : Record} (hr : r.Inv) (hq : q.Inv) (h : cells q = cells r)
    (chk : Checker) : chk.addRecord q = chk.addRecord r := by
  unfold Checker.addRecord Record.toLoc
  simp only [value_of_cells hr hq h]

/-! ## 4. iterating the reader over the record lines -/

def checkRecords (chk : Checker) : List Record → Except PyErr Checker
  | [] => .ok chk
  | r :: rs =>
    match chk.addRecord r with
    | .ok chk' => checkRecords chk' rs
    | .error e => .error e

theorem nextRecord_accept {C : Ctx} {r : Reader} {t : Text} {S : Scheme} {q : Record}
    (hn : r.next = some t) (hs : r.scheme = some S)
    (hf : Record.fromLine C t none (some S) (some r.lineNo) (some r.mode) = .ok (q, []))
    (hq : q.errors = []) : r.nextRecord C = .ok (some (q, r.advance)) := by
  obtain ⟨d, sl, er, ln, mo⟩ := q
  simp only at hq
  subst hq
  have e : ({ r with errors := r.errors ++ [], logs := r.logs ++ [] } : Reader) = r := by
    cases r; simp
  unfold Reader.nextRecord
  split
  · rename_i h; rw [hn] at h; cases h
  · rename_i l hl
    rw [hn] at hl; cases hl
    rw [hs, hf]
    simp only [List.map_nil]
    rw [← hs, e]

theorem iterate_done (C : Ctx) (K : HConsts) {r : Reader} (h : r.next = none) (fuel : Nat) (chk : Checker)
    (acc : List Record) : Reader.iterate C K (fuel + 1) r chk acc = (acc, none, r) := by
  simp only [Reader.iterate, Reader.nextRecord, h]

/-- The reader's iteration over the lines `ts` of the records `rs`.  The induction is on the
    records; the record read from a line depends on the line number and the stringency only in
    fields nothing looks at, so `fromLine_rendered` is used at whatever they are. -/
theorem iterate_rendered {C : Ctx} {K : HConsts} {S : Scheme} (hS : SchemeOKGen C S)
    (hP : PlainRenders C) {lines : List Text} {rs : List Record} {ts : List Text}
    (hts : List.Forall₂ (fun r t => r.render C = .ok t) rs ts) :
    (∀ r ∈ rs, Valid C S r) → (∀ r ∈ rs, RecStable C S r) → (∀ r ∈ rs, r.Inv) →
    ∀ (fuel : Nat) (rd : Reader) (p : Nat) (chk chk' : Checker) (acc : List Record),
      At lines rd p → (stripped lines).drop p = ts → rd.scheme = some S → ts.length < fuel →
      checkRecords chk rs = .ok chk' →
      ∃ qs rd', Reader.iterate C K fuel rd chk acc = (acc ++ qs, none, rd') ∧
        rd'.errors = rd.errors ∧ rd'.next = none ∧ rd'.header = rd.header ∧
        List.Forall₂ (Reread C) qs rs ∧ List.Forall₂ (fun q t => q.render C = .ok t) qs ts ∧
        ∀ q ∈ qs, ∀ m', (q.validate C m' true (some S)).1.errors = [] := by
  induction hts with
  | nil =>
    intro _ _ _ fuel rd p chk chk' acc hat hdrop _ hfuel _
    obtain ⟨fuel, rfl⟩ := Nat.exists_eq_add_one_of_ne_zero (Nat.ne_zero_of_lt hfuel)
    have hnext : rd.next = none := by rw [hat.next, ← List.head?_drop, hdrop]; rfl
    exact ⟨[], rd, by rw [iterate_done C K hnext, List.append_nil], rfl, hnext, rfl, .nil, .nil,
      fun _ h => nomatch h⟩
  | @cons r t rs ts ht _ ih =>
    intro hv hst hinv fuel rd p chk chk' acc hat hdrop hs hfuel hchk
    rw [List.forall_mem_cons] at hv hst hinv
    obtain ⟨fuel, rfl⟩ := Nat.exists_eq_add_one_of_ne_zero (Nat.ne_zero_of_lt hfuel)
    have hnext : rd.next = some t := by rw [hat.next, ← List.head?_drop, hdrop]; rfl
    obtain ⟨q, hq, hre, hqv⟩ := fromLine_rendered hS hP hv.1 hst.1 ht (some rd.lineNo) rd.mode
    have hadd := addRecord_of_cells hinv.1 hre.2.2.2.2 hre.2.2.1 chk
    simp only [checkRecords] at hchk
    cases hc : chk.addRecord r with
    | error e => rw [hc] at hchk; cases hchk
    | ok c1 =>
      rw [hc] at hchk hadd
      obtain ⟨qs, rd', h1, h2, h3, h4, h5, h6, h7⟩ := ih hv.2 hst.2 hinv.2 fuel rd.advance (p + 1) c1 chk'
        (acc ++ [q]) hat.advance (by rw [← List.tail_drop, hdrop]; rfl)
        (by rw [advance_eq]; exact hs) (Nat.lt_of_succ_lt_succ hfuel) hchk
      refine ⟨q :: qs, rd', ?_, ?_, h3, ?_, .cons hre h5, .cons (hre.1.trans ht) h6,
        List.forall_mem_cons.2 ⟨hqv, h7⟩⟩
      · rw [Reader.iterate, nextRecord_accept hnext hs hq hre.2.2.2.1]
        simp only [hadd, h1, List.append_assoc, List.singleton_append]
      · rw [h2, advance_eq]
      · rw [h4, advance_eq]

/-! ## 5. the header: printed by the writer, parsed by the reader -/

/-- a header the grammar can carry: every record is filed under its own key and is canonical,
    the keys are distinct (`Header.Inv`); a sort order carries exactly the contig list `from_lines`
    attaches to it (`closed`: forgetting the lists and re-applying the contigs pragma changes
    nothing); and no printed line contains a line feed.  Every header `MafHeader.from_lines` builds
    from LF-free lines satisfies this (`Props/C02`: `printable_of_parsed`). -/
structure Printable (K : HConsts) (h : Header) : Prop where
  inv : h.Inv K
  closed : (Header.applyContigs K { h with recs := h.recs.map (fun p => (p.1, p.2.reset)) }).recs = h.recs
  noLF : ∀ l ∈ h.renderLines K, '\n' ∉ l

theorem Printable.congr {K : HConsts} {h1 h2 : Header} (hp : Printable K h1) (e : h2.recs = h1.recs) :
    Printable K h2 where
  inv := ⟨e ▸ hp.inv.key_eq, e ▸ hp.inv.canon, by unfold Header.keys; rw [e]; exact hp.inv.distinct⟩
  closed := by
    refine Eq.trans (applyContigs_recs_congr K ?_) (hp.closed.trans e.symm)
    show h2.recs.map _ = h1.recs.map _
    rw [e]
  noLF := by unfold Header.renderLines; rw [e]; exact hp.noLF

theorem isCRLF_isPySpace {c : Char} (h : isCRLF c = true) : isPySpace c = true := by
  simp only [isCRLF, Bool.or_eq_true, decide_eq_true_eq] at h
  rcases h with rfl | rfl <;> decide

theorem renderLine_ok {K : HConsts} {h : Header} (hp : Printable K h) :
    ∀ l ∈ h.renderLines K, LineOK l ∧ l.head? = some K.startSymbol := by
  intro l hl
  obtain ⟨p, hpm, rfl⟩ := List.mem_map.1 hl
  refine ⟨⟨hp.noLF _ hl, fun c hc' => ?_⟩, rfl⟩
  have hc := (hp.inv.canon p hpm).value.str_ok
  -- the line ends with the value, which is non-empty and ends in no white space
  rw [HRec.render_eq, ← List.cons_append, List.append_cons, List.getLast?_append,
    List.getLast?_eq_some_getLast hc.1, Option.some_or, ← List.getLast?_eq_some_getLast hc.1] at hc'
  have hns := rstripChars_last isPySpace p.2.value.str c
  rw [show rstripChars isPySpace p.2.value.str = p.2.value.str from hc.2] at hns
  cases hcr : isCRLF c with
  | false => rfl
  | true => rw [isCRLF_isPySpace hcr] at hns; cases hns hc'


/-- the two whole-header checks of `header.validate` -/
def hdrErrs (K : HConsts) (R : Registry) (h : Header) : List VErr :=
  C13.versionErrs K R h ++ C13.annotationErrs K R h

theorem fromLines_rendered {K : HConsts} (R : Registry) {h : Header} (hp : Printable K h) (m : Mode) :
    Header.fromLines K R (h.renderLines K) (some m) =
      ({ recs := h.recs, errors := hdrErrs K R h, mode := m }, processErrors m (hdrErrs K R h)) := by
  have h1 : Header.applyContigs K { recs := h.recs.map (fun p => (p.1, p.2.reset)), errors := [], mode := m } =
      { recs := h.recs, errors := [], mode := m } := by
    have hr := (applyContigs_recs_congr K
      (h1 := { recs := h.recs.map (fun p => (p.1, p.2.reset)), errors := [], mode := m })
      (h2 := { h with recs := h.recs.map (fun p => (p.1, p.2.reset)) }) rfl).trans hp.closed
    have he := applyContigs_errors K { recs := h.recs.map (fun p => (p.1, p.2.reset)), errors := [], mode := m }
    have hm := applyContigs_mode K { recs := h.recs.map (fun p => (p.1, p.2.reset)), errors := [], mode := m }
    generalize Header.applyContigs K _ = x at hr he hm
    cases x
    simp only at hr he hm
    rw [hr, he, hm]
  show Header.validate K R (Header.applyContigs K (Header.parseLines K 1 (h.renderLines K) { mode := m }))
    none false = _
  rw [C13.reparse hp.inv m, h1, C13.validate_rules]
  rfl

/-! ## 6. the writer -/

def headerOut (K : HConsts) (h : Header) : List Text :=
  if h.recs.isEmpty then [] else [joinWith '\n' (h.renderLines K) ++ ['\n']]

theorem joinWith_lf_append (ls : List Text) (hne : ls ≠ []) :
    joinWith '\n' ls ++ ['\n'] = (ls.map (· ++ ['\n'])).flatten := by
  induction ls with
  | nil => exact absurd rfl hne
  | cons l r ih =>
    cases r with
    | nil => simp [joinWith]
    | cons m r' =>
      rw [joinWith_cons_cons, List.map_cons, List.flatten_cons, ← ih (by simp)]
      simp

theorem headerOut_flatten (K : HConsts) (h : Header) :
    (headerOut K h).flatten = ((h.renderLines K).map (· ++ ['\n'])).flatten := by
  unfold headerOut
  cases hr : h.recs with
  | nil => simp [Header.renderLines, hr]
  | cons p ps =>
    have hne : h.renderLines K ≠ [] := by simp [Header.renderLines, hr]
    simp only [List.isEmpty_cons, Bool.false_eq_true, if_false, List.flatten_cons, List.flatten_nil,
      List.append_nil]
    exact joinWith_lf_append _ hne

/-- `MafWriter(handle, header, stringency, assume_sorted=True)` -/
theorem writer_init_eq (K : HConsts) (R : Registry) (h : Header) (m : Mode) :
    Writer.init K R h (some m) true =
      match processErrors m (hdrErrs K R h) with
      | .error e => .error e
      | .ok _ =>
        match (h.scheme K R).filter Scheme.truthy with
        | some s => .ok { out := headerOut K h ++ [columnLine s],
                          header := { h with errors := hdrErrs K R h }, scheme := some s, mode := m,
                          assumeSorted := true, sorting := false }
        | none => .ok { out := headerOut K h, header := { h with errors := hdrErrs K R h }, mode := m,
                        assumeSorted := true } := by
  unfold Writer.init
  simp only [modeOrSilent]
  rw [C13.validate_rules]
  simp only [if_true, List.nil_append, Option.getD_some]
  unfold hdrErrs
  generalize processErrors m (C13.versionErrs K R h ++ C13.annotationErrs K R h) = pe
  cases pe with
  | error e => rfl
  | ok lg =>
    simp only []
    have hs : Header.scheme K R { h with errors := C13.versionErrs K R h ++ C13.annotationErrs K R h } =
        h.scheme K R := rfl
    rw [hs]
    cases (h.scheme K R).filter Scheme.truthy with
    | none => rfl
    | some s => rfl

/-- `writer += r₁; writer += r₂; …`, stopping at the first exception -/
def writeAll (C : Ctx) (K : HConsts) (w : Writer) : List Record → Writer × Except PyErr Unit
  | [] => (w, .ok ())
  | r :: rs =>
    match w.write C K r with
    | (w', .ok ()) => writeAll C K w' rs
    | (w', .error e) => (w', .error e)

theorem writeAll_direct {C : Ctx} {K : HConsts} {S : Scheme} (hS : S.truthy = true) {rs : List Record} :
    ∀ {w w' : Writer}, w.scheme = some S → w.sorting = false →
      (writeAll C K w rs = (w', .ok ()) ↔
        ∃ ts, List.Forall₂ (fun r t => r.render C = .ok t) rs ts ∧
          (∀ r ∈ rs, ∃ lg, (r.validate C (some w.mode) true (some S)).2 = .ok lg) ∧
          w' = { w with out := w.out ++ ts.map (· ++ ['\n']) }) := by
  induction rs with
  | nil =>
    intro w w' _ _
    simp only [writeAll, Prod.mk.injEq, and_true]
    constructor
    · rintro rfl; exact ⟨[], .nil, List.forall_mem_nil _, by simp⟩
    · rintro ⟨_, ⟨⟩, -, rfl⟩; simp
  | cons r rs ih =>
    intro w w' hs hsort
    simp only [writeAll, List.forall_mem_cons]
    constructor
    · intro h
      rcases hw : w.write C K r with ⟨w1, e | ⟨⟨⟩⟩⟩
      · rw [hw] at h; cases h
      · rw [hw] at h
        obtain ⟨t, lg, hr, hv, rfl⟩ := (Writer.write_direct_iff hs hS hsort).1 hw
        obtain ⟨ts, hts, hvs, rfl⟩ := (ih (w := { w with out := w.out ++ [t ++ ['\n']] }) hs hsort).1 h
        exact ⟨t :: ts, .cons hr hts, ⟨⟨lg, hv⟩, hvs⟩, by simp⟩
    · rintro ⟨_, hts, ⟨⟨lg, hv⟩, hvs⟩, rfl⟩
      cases hts with
      | cons hr hts =>
        rw [(Writer.write_direct_iff hs hS hsort).2 ⟨_, lg, hr, hv, rfl⟩]
        exact (ih (w := { w with out := w.out ++ [_ ++ ['\n']] }) hs hsort).2 ⟨_, hts, hvs, by simp⟩

end RoundTrip

/-- the bytes on the handle: every `handle.write(text)` so far, concatenated -/
def Model.Writer.bytes (w : Writer) : Text := w.out.flatten

namespace RoundTrip

/-! ## 7. the round trip -/

def colNamesOf (K : HConsts) (lines : List Text) : Option (List Text) :=
  (stripped lines)[headerLen K lines]?.map (splitOn '\t')

def NamesClean (names : List Text) : Prop := ∀ n ∈ names, ∀ c ∈ n, c ≠ '\t' ∧ c ≠ '\n' ∧ c ≠ '\r'

/-- what the theorems ask of the scheme: the hypotheses of the `from_line` lemmas (`SchemeOKGen`:
    distinct names, at least one column, classes that resolve), names the file format can carry
    (no TAB/CR/LF), and a column-name line that is not mistaken for a header line -/
structure SchemeFit (C : Ctx) (K : HConsts) (S : Scheme) : Prop where
  ok : SchemeOKGen C S
  clean : NamesClean (S.names.map String.toList)
  nohash : (joinWith '\t' (S.names.map String.toList)).head? ≠ some K.startSymbol

/-- the records are supplied in the order the header declares: the reader's own order checker
    (`Checker.addRecord`, started from the header's sort order and contig list) lets them through -/
def InDeclaredOrder (K : HConsts) (h : Header) (rs : List Record) : Prop :=
  ∃ c, checkRecords { order := (h.sortOrder K).1, contigs := (h.sortOrder K).2 } rs = .ok c

theorem forall₂_length {α β} {R : α → β → Prop} {as : List α} {bs : List β}
    (h : List.Forall₂ R as bs) : as.length = bs.length := by
  induction h with
  | nil => rfl
  | cons _ _ ih => exact congrArg (· + 1) ih

abbrev colText (S : Scheme) : Text := joinWith '\t' (S.names.map String.toList)

section
variable {C : Ctx} {K : HConsts} {R : Registry} {S : Scheme} {h : Header} {rs : List Record}
  {ts : List Text}

theorem lines_ok (hfit : SchemeFit C K S) (hh : Printable K h)
    (hts : List.Forall₂ (fun r t => r.render C = .ok t) rs ts) (hvalid : ∀ r ∈ rs, Valid C S r) :
    ∀ l ∈ h.renderLines K ++ colText S :: ts, LineOK l := by
  intro l hl
  rcases List.mem_append.1 hl with hl | hl
  · exact (renderLine_ok hh l hl).1
  · rcases List.mem_cons.1 hl with rfl | hl
    · exact lineOK_join hfit.clean
    · obtain ⟨r, hr, ht⟩ := forall₂_mem_right hts hl
      exact lineOK_rendered hfit.ok.truthy (hvalid r hr) ht

theorem written_lines (hfit : SchemeFit C K S) (hh : Printable K h) {w0 w : Writer}
    (hout : w0.out = headerOut K h ++ [columnLine S]) (hs : w0.scheme = some S)
    (hsort : w0.sorting = false) (hw : writeAll C K w0 rs = (w, .ok ()))
    (hvalid : ∀ r ∈ rs, Valid C S r) :
    ∃ ts, List.Forall₂ (fun r t => r.render C = .ok t) rs ts ∧
      w.out = w0.out ++ ts.map (· ++ ['\n']) ∧
      fileLines w.bytes = (h.renderLines K ++ colText S :: ts).map (· ++ ['\n']) := by
  obtain ⟨ts, hts, -, rfl⟩ := (writeAll_direct hfit.ok.truthy hs hsort).1 hw
  refine ⟨ts, hts, rfl, ?_⟩
  rw [← fileLines_flatten _ (fun l hl => (lines_ok hfit hh hts hvalid l hl).1)]
  simp only [Writer.bytes, hout, List.flatten_append, headerOut_flatten, List.map_append, List.map_cons,
    List.flatten_cons, List.flatten_nil, columnLine, List.append_nil, List.append_assoc]

/-- C02, for any stringency `m` and any scheme `S` writer and reader agree on.
    A direct writer that has emitted `str(header)` and the column names of `S` is fed records that
    are valid against `S`, hold canonical values, are coherent and come in the declared order; the
    reader settles on `S` (the header names it, or names none and `S` is the unrestricted scheme of
    its own column names) and the stringency lets the whole-header errors pass.  Then the writer has
    appended one line per record, the texts `ts`, and the lines of the bytes written are read back:
    same header records, the scheme `S`, its names as column names, no error but the whole-header
    ones, every record read back (`Reread`); and any direct writer with the scheme `S` accepts the
    records read and appends the same texts `ts` for them. -/
theorem round_trip {m : Mode} (hP : PlainRenders C) (hfit : SchemeFit C K S) (hh : Printable K h)
    {w0 w : Writer} (hout : w0.out = headerOut K h ++ [columnLine S]) (hs : w0.scheme = some S)
    (hsort : w0.sorting = false) (hw : writeAll C K w0 rs = (w, .ok ()))
    (hvalid : ∀ r ∈ rs, Valid C S r) (hstable : ∀ r ∈ rs, RecStable C S r) (hinv : ∀ r ∈ rs, r.Inv)
    (hord : InDeclaredOrder K h rs)
    (hsch : h.scheme K R = some S ∨ h.scheme K R = none ∧ noRestrictionsScheme S.names = S)
    {lg0 : List LogRec} (hpe : processErrors m (hdrErrs K R h) = .ok lg0) :
    ∃ (rd : Reader) (rs' : List Record) (rd' : Reader) (ts : List Text),
      w.out = w0.out ++ ts.map (· ++ ['\n']) ∧
      Reader.init C K R (fileLines w.bytes) (some m) none = .ok rd ∧
      rd.header = { recs := h.recs, errors := hdrErrs K R h, mode := m } ∧ rd.scheme = some S ∧
      rd.errors = hdrErrs K R h ∧
      colNamesOf K (fileLines w.bytes) = some (S.names.map String.toList) ∧
      rd.readAll C K = (rs', none, rd') ∧ rd'.errors = hdrErrs K R h ∧ rd'.next = none ∧
      List.Forall₂ (Reread C) rs' rs ∧
      ∀ v0 : Writer, v0.scheme = some S → v0.sorting = false →
        writeAll C K v0 rs' = ({ v0 with out := v0.out ++ ts.map (· ++ ['\n']) }, .ok ()) := by
  obtain ⟨ts, hts, hwout, hlines⟩ := written_lines hfit hh hout hs hsort hw hvalid
  rw [hlines]
  -- the lines as the reader sees them
  have hok := lines_ok hfit hh hts hvalid
  have hstr := stripped_map_lf hok
  have hb := headerBlock_map_lf hok (fun l hl => (renderLine_ok hh l hl).2)
    (fun l hl => by cases hl; exact hfit.nohash)
  have hk : headerLen K ((h.renderLines K ++ colText S :: ts).map (· ++ ['\n'])) =
      (h.renderLines K).length := congrArg List.length hb
  have hcl : (stripped ((h.renderLines K ++ colText S :: ts).map (· ++ ['\n'])))[(h.renderLines K).length]? =
      some (colText S) := by
    rw [hstr, List.getElem?_append_right (Nat.le_refl _), Nat.sub_self]; rfl
  have hsplit : splitOn '\t' (colText S) = S.names.map String.toList :=
    splitOn_tab_join _
      (by simpa [Scheme.names] using List.ne_nil_of_length_pos hfit.ok.pos)
      (fun f hf hc => (hfit.clean f hf _ hc).1 rfl)
  -- the reader's `__init__`: the header is parsed back, `S` chosen, the look-ahead on the first record
  have hfl : Header.fromLines K R (h.renderLines K) (some m) =
      ({ recs := h.recs, errors := hdrErrs K R h, mode := m }, .ok lg0) := by
    rw [fromLines_rendered R hh m, hpe]
  obtain ⟨rd, hinit, hat, hhdr, hsc, herr, -⟩ := init_of_columnLine (C := C) (hb.symm ▸ hfl) (hk.symm ▸ hcl)
    (by rw [hsplit, List.map_map,
          show (String.ofList ∘ String.toList) = id from funext fun _ => String.ofList_toList, List.map_id]
        exact hsch)
    hsplit.symm hpe
  rw [hk] at hat
  -- the record lines
  obtain ⟨c, hc⟩ := hord
  obtain ⟨qs, rd', hread, he', hn', -, hre, hqt, hqv⟩ := iterate_rendered (K := K) hfit.ok hP hts hvalid hstable
    hinv (rd.src.length + 2) rd _ (rd.checker K) c [] hat
    (by rw [hstr, List.drop_length_add_append]; rfl)
    hsc (by rw [hat.src, List.length_drop, List.length_map, List.length_append]; simp; omega)
    (by rw [Reader.checker, hhdr]; exact hc)
  exact ⟨rd, qs, rd', ts, hwout, hinit, hhdr, hsc, herr, by rw [colNamesOf, hk, hcl, Option.map_some, hsplit],
    hread, he'.trans herr, hn', hre,
    fun v0 hvs hvsort => (writeAll_direct hfit.ok.truthy hvs hvsort).2
      ⟨ts, hqt, fun q hq => ⟨[], validate_ok_of_errors_nil (hqv q hq _)⟩, rfl⟩⟩

end

end RoundTrip
