/-
  Symbolic execution of the spill-file effect model (`Model/Resources.lean`, `maflib/sorter.py`) and
  the invariants that every operation re-establishes, whether it returns or raises.
-/
import MafModel.Lemmas.MergeLemmas
open Py Model MergeLemmas

namespace ResourceLemmas

/-! ## running the effect monad -/

def exec {α} (x : M α) (s : RState) : Except PyErr α × RState := ExceptT.run x s

theorem exec_pure {α} (a : α) (s : RState) : exec (pure a : M α) s = (.ok a, s) := rfl
theorem exec_throw {α} (e : PyErr) (s : RState) : exec (throw e : M α) s = (.error e, s) := rfl
theorem exec_set (s' s : RState) : exec (set s' : M PUnit) s = (.ok ⟨⟩, s') := rfl
theorem exec_modify (f : RState → RState) (s : RState) : exec (modify f : M PUnit) s = (.ok ⟨⟩, f s) := rfl

theorem st_bind {σ α β} (x : StateM σ α) (f : α → StateM σ β) (s : σ) :
    (x >>= f) s = f (x s).1 (x s).2 := rfl

theorem exec_bind {α β} (x : M α) (f : α → M β) (s : RState) :
    exec (x >>= f) s = match exec x s with
      | (.ok a, s') => exec (f a) s'
      | (.error e, s') => (.error e, s') := by
  unfold exec
  show (ExceptT.bind x f).run s = _
  unfold ExceptT.bind ExceptT.mk ExceptT.run ExceptT.bindCont
  rw [st_bind]
  rcases (x s : Except PyErr α × RState) with ⟨r, s'⟩
  cases r <;> rfl

theorem exec_tryCatch {α} (x : M α) (h : PyErr → M α) (s : RState) :
    exec (tryCatch x h) s = match exec x s with
      | (.ok a, s') => (.ok a, s')
      | (.error e, s') => exec (h e) s' := by
  unfold exec
  show (ExceptT.tryCatch x h).run s = _
  unfold ExceptT.tryCatch ExceptT.mk ExceptT.run
  rw [st_bind]
  rcases (x s : Except PyErr α × RState) with ⟨r, s'⟩
  cases r <;> rfl

section
variable {α β : Type} {x : M α} {f : α → M β} {h : PyErr → M α} {s s' : RState} {a : α} {e : PyErr}

theorem exec_bind_ok (hx : exec x s = (.ok a, s')) : exec (x >>= f) s = exec (f a) s' := by
  rw [exec_bind, hx]

theorem exec_bind_err (hx : exec x s = (.error e, s')) : exec (x >>= f) s = (.error e, s') := by
  rw [exec_bind, hx]

theorem exec_tryCatch_ok (hx : exec x s = (.ok a, s')) : exec (tryCatch x h) s = (.ok a, s') := by
  rw [exec_tryCatch, hx]

end

theorem exec_get_bind {β} (f : RState → M β) (s : RState) : exec (get >>= f) s = exec (f s) s := rfl

theorem exec_modify_bind {β} (g : RState → RState) (f : PUnit → M β) (s : RState) :
    exec (modify g >>= f) s = exec (f ⟨⟩) (g s) := rfl

/-! ## the fault plan -/

/-- the fault is still armed: some call may fail from this state on -/
def Fires (s : RState) : Prop := s.fired = false ∧ s.failAt.isSome = true

/-- the state after an I/O call that did not fail (only the trace grows) -/
abbrev tr (s : RState) (t : List IOCall) : RState := { s with trace := t }
/-- the state after the I/O call that failed -/
abbrev fire (s : RState) (t : List IOCall) : RState := { s with trace := t, fired := true }

theorem Fires_tr {s : RState} {t} : Fires (tr s t) ↔ Fires s := Iff.rfl

/-- Every primitive is `tick` followed by an effect: the call is logged and either goes on
    as if nothing had happened, or it is the one call of the plan, and the flag is set. -/
theorem tick_bind {α} (c : IOCall) (f : Bool → M α) (s : RState) :
    (∃ t, exec (tick c >>= f) s = exec (f false) (tr s t)) ∨
    (Fires s ∧ ∃ t, exec (tick c >>= f) s = exec (f true) (fire s t)) := by
  have h : exec (tick c >>= f) s = exec (f ((s.failAt == some s.trace.length) && !s.fired))
      { s with trace := s.trace ++ [c], fired := s.fired || ((s.failAt == some s.trace.length) && !s.fired) } := rfl
  rw [h]
  cases hf : s.fired
  · cases hq : (s.failAt == some s.trace.length)
    · exact .inl ⟨s.trace ++ [c], by simp [tr, hf]⟩
    · exact .inr ⟨⟨hf, by rw [beq_iff_eq.1 hq]; rfl⟩, s.trace ++ [c], by simp [fire]⟩
  · exact .inl ⟨s.trace ++ [c], by simp [tr, hf]⟩

theorem mkstemp_exec (s : RState) :
    (∃ t, exec mkstemp s = (.ok (s.nextId + 1, s.nextId),
        { tr s t with files := s.files ++ [s.nextId], fds := s.fds ++ [s.nextId + 1], nextId := s.nextId + 2 })) ∨
    (Fires s ∧ ∃ t, exec mkstemp s = (.error ioErr, fire s t)) :=
  tick_bind .mkstemp _ s

theorem gzopen_exec (m : IOCall) (s : RState) :
    (∃ t, exec (gzopen m) s = (.ok s.nextId,
        { tr s t with handles := s.handles ++ [s.nextId], nextId := s.nextId + 1 })) ∨
    (Fires s ∧ ∃ t, exec (gzopen m) s = (.error ioErr, fire s t)) :=
  tick_bind m _ s

/-- a computation that only makes I/O calls which touch nothing but the trace -/
def TrOnly (x : M Unit) : Prop :=
  ∀ s, (∃ t, exec x s = (.ok (), tr s t)) ∨ (Fires s ∧ ∃ t, exec x s = (.error ioErr, fire s t))

theorem hwrite_exec : TrOnly hwrite :=
  tick_bind .write _

theorem hread_exec : TrOnly hread :=
  tick_bind .read _

theorem hclose_exec (c : IOCall) (h : Nat) (s : RState) :
    (∃ t, exec (hclose c h) s = (.ok (), { tr s t with handles := s.handles.erase h })) ∨
    (Fires s ∧ ∃ t, exec (hclose c h) s = (.error ioErr, { fire s t with handles := s.handles.erase h })) :=
  tick_bind c _ s

theorem osclose_exec (d : Nat) (s : RState) :
    (∃ t, exec (osclose d) s = (.ok (), { tr s t with fds := s.fds.erase d })) ∨
    (Fires s ∧ ∃ t, exec (osclose d) s = (.error ioErr, { fire s t with fds := s.fds.erase d })) :=
  tick_bind .osclose _ s

theorem osremove_exec (f : Nat) (s : RState) :
    (∃ t, exec (osremove f) s = (.ok (), { tr s t with files := s.files.erase f })) ∨
    (Fires s ∧ ∃ t, exec (osremove f) s = (.error ioErr, fire s t)) :=
  tick_bind .remove _ s

theorem TrOnly.seq {x y : M Unit} (hx : TrOnly x) (hy : TrOnly y) : TrOnly (do x; y) := by
  intro s
  rcases hx s with ⟨t, h⟩ | ⟨hf, t, h⟩
  · rw [exec_bind_ok h]
    exact hy (tr s t)
  · exact Or.inr ⟨hf, t, exec_bind_err h⟩

theorem TrOnly.forM {β} (l : List β) {f : β → M Unit} (hf : ∀ b, TrOnly (f b)) : TrOnly (l.forM f) := by
  induction l with
  | nil => exact fun s => Or.inl ⟨s.trace, rfl⟩
  | cons b l ih => exact (hf b).seq ih

/-! ## the shape of every operation's outcome -/

/-- an operation returns without the fault having fired during it, or it raises the
    I/O error and the fault fired during it -/
def Outcome {α} (s : RState) (r : Except PyErr α × RState) (Q : α → RState → Prop)
    (E : RState → Prop) : Prop :=
  r.2.failAt = s.failAt ∧
  match r.1 with
  | .ok a => r.2.fired = s.fired ∧ Q a r.2
  | .error e => e = ioErr ∧ Fires s ∧ r.2.fired = true ∧ E r.2

section
variable {α β : Type} {s s' s0 : RState} {r : Except PyErr α × RState} {x : M α}
  {Q Q' : α → RState → Prop} {E E' : RState → Prop} {first : Option PyErr}

theorem Outcome.ok {a : α} (h1 : s'.failAt = s.failAt) (h2 : s'.fired = s.fired) (h3 : Q a s') :
    Outcome s (.ok a, s') Q E := ⟨h1, h2, h3⟩

theorem Outcome.err (h1 : s'.failAt = s.failAt) (hf : Fires s) (h2 : s'.fired = true) (h3 : E s') :
    Outcome s (.error ioErr, s') Q E := ⟨h1, rfl, hf, h2, h3⟩

theorem Outcome.cases (h : Outcome s r Q E) :
    (∃ a s', r = (.ok a, s') ∧ s'.failAt = s.failAt ∧ s'.fired = s.fired ∧ Q a s') ∨
    (∃ s', r = (.error ioErr, s') ∧ s'.failAt = s.failAt ∧ Fires s ∧ s'.fired = true ∧ E s') := by
  obtain ⟨r1, s'⟩ := r
  cases r1 with
  | ok a => exact Or.inl ⟨a, s', rfl, h.1, h.2⟩
  | error e => obtain ⟨h1, rfl, h2⟩ := h; exact Or.inr ⟨s', rfl, h1, h2⟩

theorem Outcome.mono (h : Outcome s r Q E) (hQ : ∀ a s', Q a s' → Q' a s') (hE : ∀ s', E s' → E' s') :
    Outcome s r Q' E' := by
  rcases h.cases with ⟨a, s', rfl, h1, h2, h3⟩ | ⟨s', rfl, h1, hf, h2, h3⟩
  · exact .ok h1 h2 (hQ _ _ h3)
  · exact .err h1 hf h2 (hE _ h3)

theorem Outcome.post {P : RState → Prop} (h : Outcome s r Q E) (hQ : ∀ a s', Q a s' → P s')
    (hE : ∀ s', E s' → P s') : P r.2 := by
  rcases h.cases with ⟨a, s', rfl, _, _, h3⟩ | ⟨s', rfl, _, _, _, h3⟩
  · exact hQ _ _ h3
  · exact hE _ h3

/-- the fault plan of `s0` is that of `s` -/
theorem Outcome.rebase (h : Outcome s0 r Q E) (h1 : s0.failAt = s.failAt) (h2 : s0.fired = s.fired) :
    Outcome s r Q E := by
  rcases h.cases with ⟨a, s', rfl, g1, g2, g3⟩ | ⟨s', rfl, g1, hf, g2, g3⟩
  · exact .ok (g1.trans h1) (g2.trans h2) g3
  · exact .err (g1.trans h1) ⟨h2 ▸ hf.1, h1 ▸ hf.2⟩ g2 g3

theorem Outcome.bind {f : α → M β} {Q1 : α → RState → Prop} {Q : β → RState → Prop}
    (hx : Outcome s (exec x s) Q1 E) (hf : ∀ a s1, Q1 a s1 → Outcome s1 (exec (f a) s1) Q E) :
    Outcome s (exec (x >>= f) s) Q E := by
  rcases hx.cases with ⟨a, s1, h, h1, h2, h3⟩ | ⟨s1, h, h1, hf', h2, h3⟩
  · rw [exec_bind_ok h]
    exact (hf a s1 h3).rebase h1 h2
  · rw [exec_bind_err h]
    exact .err h1 hf' h2 h3

/-- once the fault has fired nothing raises any more -/
theorem Outcome.ok_of_fired (h : Outcome s (exec x s) Q E) (hf : s.fired = true) :
    ∃ a s', exec x s = (.ok a, s') ∧ s'.failAt = s.failAt ∧ s'.fired = true ∧ Q a s' := by
  rcases h.cases with ⟨a, s', h, h1, h2, h3⟩ | ⟨_, _, _, hf', _⟩
  · exact ⟨a, s', h, h1, h2.trans hf, h3⟩
  · rw [hf'.1] at hf; cases hf

/-! `close()` and `_MergingIterator.close()` go through everything they have to release and
    remember the first `OSError` (`collectOS`) to raise it at the end. -/

/-- `first` is what has been remembered in state `s` of a run that began in `s0`: nothing
    while the fault has not fired since, the I/O error once it has -/
def Seen (s0 s : RState) (first : Option PyErr) : Prop :=
  s.failAt = s0.failAt ∧
  ((first = none ∧ s.fired = s0.fired) ∨ (first = some ioErr ∧ Fires s0 ∧ s.fired = true))

theorem Seen.refl (s : RState) : Seen s s none := ⟨rfl, Or.inl ⟨rfl, rfl⟩⟩

/-- a step during which the fault does not fire -/
theorem Seen.ok (h : Seen s0 s first) (h1 : s'.failAt = s.failAt) (h2 : s'.fired = s.fired) :
    Seen s0 s' first :=
  ⟨h1.trans h.1, h.2.imp (fun g => ⟨g.1, h2.trans g.2⟩) (fun g => ⟨g.1, g.2.1, h2.trans g.2.2⟩)⟩

/-- a step during which it fires: nothing had been remembered before -/
theorem Seen.err (h : Seen s0 s first) (h1 : s'.failAt = s.failAt) (hf : Fires s) (h2 : s'.fired = true) :
    first = none ∧ Seen s0 s' (some ioErr) := by
  rcases h.2 with ⟨rfl, g⟩ | ⟨_, _, g⟩
  · exact ⟨rfl, h1.trans h.1, Or.inr ⟨rfl, ⟨g ▸ hf.1, h.1 ▸ hf.2⟩, h2⟩⟩
  · rw [hf.1] at g; cases g

variable {x : M Unit} {Q : Unit → RState → Prop}

theorem Seen.collectOS (h : Seen s0 s first) (hx : Outcome s (exec x s) Q E) :
    ∃ first' s', exec (collectOS first x) s = (.ok first', s') ∧ Seen s0 s' first' ∧
      (first.isSome = true → first'.isSome = true) ∧ (Q () s' ∨ E s') := by
  unfold Model.collectOS
  rw [exec_tryCatch, exec_bind]
  rcases hx.cases with ⟨a, s1, hx, h1, h2, h3⟩ | ⟨s1, hx, h1, hf, h2, h3⟩
  · rw [hx]
    exact ⟨first, s1, rfl, h.ok h1 h2, id, Or.inl h3⟩
  · rw [hx]
    obtain ⟨rfl, h'⟩ := h.err h1 hf h2
    exact ⟨some ioErr, s1, rfl, h', fun _ => rfl, Or.inr h3⟩

/-- the end of such a run: raise what has been remembered -/
theorem Seen.outcome (h : Seen s s' first) (hQ : first = none → Q () s') (hE : first = some ioErr → E s') :
    Outcome s (exec (match first with | some e => throw e | none => pure ()) s') Q E := by
  rcases h.2 with ⟨rfl, g⟩ | ⟨rfl, hf, g⟩
  · exact .ok h.1 g (hQ rfl)
  · exact .err h.1 hf g (hE rfl)

end

/-! ## invariants -/

/-- files, descriptors and registered paths: everything that exists is registered, and ids are fresh -/
structure WF (s : RState) : Prop where
  filesNd : s.files.Nodup
  fdsNd : s.fds.Nodup
  pathsNd : s.paths.Nodup
  filesLt : ∀ x ∈ s.files, x < s.nextId
  fdsLt : ∀ x ∈ s.fds, x < s.nextId
  pathsLt : ∀ x ∈ s.paths, x < s.nextId
  filesReg : ∀ f ∈ s.files, f ∈ s.paths
  lenReg : s.paths.length = s.fdsReg.length
  fdsReg : ∀ d ∈ s.fds, some d ∈ s.fdsReg

structure HInv (s : RState) : Prop where
  nd : s.handles.Nodup
  lt : ∀ x ∈ s.handles, x < s.nextId

/-- what the spill files hold: `all` are the keys added so far -/
structure DInv (s : RState) (all : List Nat) : Prop where
  keys : s.contents.map (·.1) = s.paths
  sorted : ∀ p ∈ s.contents, p.2.Pairwise (· ≤ ·)
  perm : (s.contents.flatMap (·.2) ++ s.stash).Perm all

/-- what `WF` speaks of, the id counter aside -/
def reg (s : RState) : List Nat × List Nat × List Nat × List (Option Nat) :=
  (s.files, s.fds, s.paths, s.fdsReg)

/-- `s'` has the files, descriptors and registrations of `s` and an id counter that is not behind:
    all that opening, reading, writing and closing handles leaves of `WF` to look after -/
def Fr (s s' : RState) : Prop := reg s' = reg s ∧ s.nextId ≤ s'.nextId

theorem Fr.refl (s : RState) : Fr s s := ⟨rfl, Nat.le_refl _⟩
theorem Fr.trans {a b c : RState} (h1 : Fr a b) (h2 : Fr b c) : Fr a c :=
  ⟨h2.1.trans h1.1, Nat.le_trans h1.2 h2.2⟩

theorem WF.fr {s s' : RState} (h : WF s) (f : Fr s s') : WF s' := by
  obtain ⟨hr, hn⟩ := f
  simp only [reg, Prod.mk.injEq] at hr
  obtain ⟨h1, h2, h3, h4⟩ := hr
  constructor
  all_goals simp only [h1, h2, h3, h4]
  · exact h.filesNd
  · exact h.fdsNd
  · exact h.pathsNd
  · exact fun x hx => Nat.lt_of_lt_of_le (h.filesLt x hx) hn
  · exact fun x hx => Nat.lt_of_lt_of_le (h.fdsLt x hx) hn
  · exact fun x hx => Nat.lt_of_lt_of_le (h.pathsLt x hx) hn
  · exact h.filesReg
  · exact h.lenReg
  · exact h.fdsReg

theorem HInv.of_nil {s : RState} (h : s.handles = []) : HInv s :=
  ⟨h ▸ List.nodup_nil, fun x hx => by rw [h] at hx; cases hx⟩

theorem nodup_append_fresh {l : List Nat} {n : Nat} (h : l.Nodup) (hlt : ∀ x ∈ l, x < n) :
    (l ++ [n]).Nodup :=
  List.nodup_append.2 ⟨h, List.pairwise_singleton _ n, fun a ha b hb => by
    rw [List.mem_singleton.1 hb]; exact Nat.ne_of_lt (hlt a ha)⟩

theorem lt_append_fresh {l : List Nat} {n k m : Nat} (hlt : ∀ x ∈ l, x < n) (hk : k < m) (hnm : n ≤ m) :
    ∀ x ∈ l ++ [k], x < m := by
  intro x hx
  rcases List.mem_append.1 hx with hx | hx
  · exact Nat.lt_of_lt_of_le (hlt x hx) hnm
  · rw [List.mem_singleton.1 hx]; exact hk

/-- `mkstemp` followed by the registration of the new file and descriptor -/
theorem WF.mkstemp_reg {s s' : RState} (h : WF s)
    (h1 : s'.files = s.files ++ [s.nextId]) (h2 : s'.fds = s.fds ++ [s.nextId + 1])
    (h3 : s'.paths = s.paths ++ [s.nextId]) (h4 : s'.fdsReg = s.fdsReg ++ [some (s.nextId + 1)])
    (h5 : s'.nextId = s.nextId + 2) : WF s' := by
  constructor
  all_goals simp only [h1, h2, h3, h4, h5]
  · exact nodup_append_fresh h.filesNd h.filesLt
  · exact nodup_append_fresh h.fdsNd (fun x hx => Nat.lt_succ_of_lt (h.fdsLt x hx))
  · exact nodup_append_fresh h.pathsNd h.pathsLt
  · exact lt_append_fresh h.filesLt (by omega) (by omega)
  · exact lt_append_fresh h.fdsLt (by omega) (by omega)
  · exact lt_append_fresh h.pathsLt (by omega) (by omega)
  · intro x hx
    exact (List.mem_append.1 hx).elim (fun hx => List.mem_append_left _ (h.filesReg x hx)) (List.mem_append_right _)
  · simp [h.lenReg]
  · intro x hx
    rcases List.mem_append.1 hx with hx | hx
    · exact List.mem_append_left _ (h.fdsReg x hx)
    · rw [List.mem_singleton.1 hx]; simp

theorem DInv.spilled {s s' : RState} {all : List Nat} {f : Nat} (h : DInv s all)
    (h1 : s'.contents = s.contents ++ [(f, s.stash.mergeSort (fun a b => a ≤ b))])
    (h2 : s'.paths = s.paths ++ [f]) (h3 : s'.stash = []) : DInv s' all := by
  constructor
  · rw [h1, h2, List.map_append, h.keys]; rfl
  · rw [h1]; intro p hp
    rcases List.mem_append.1 hp with hp | hp
    · exact h.sorted p hp
    · rw [List.mem_singleton.1 hp]; exact pairwise_mergeSort_le _
  · rw [h1, h3, List.flatMap_append, List.append_nil]
    simp only [List.flatMap_cons, List.flatMap_nil, List.append_nil]
    exact ((List.mergeSort_perm _ _).append_left _).trans h.perm

/-! ## `__spill` and `add` -/

theorem swallowOS_hclose_fired (c : IOCall) (h : Nat) (s : RState) (hf : s.fired = true) :
    ∃ t, exec (swallowOS (hclose c h)) s = (.ok (), { tr s t with handles := s.handles.erase h }) := by
  rcases tick_bind c _ s with ⟨t, h⟩ | ⟨hf', _⟩
  · exact ⟨t, exec_tryCatch_ok h⟩
  · rw [hf'.1] at hf; cases hf

/-- the state between two operations: no handle is open; `m` are the registered cursors -/
def Idle (m : List (List Cursor)) (s' : RState) : Prop := WF s' ∧ s'.handles = [] ∧ s'.merging = m

theorem spill_spec (s : RState) (hw : WF s) (hh : s.handles = []) :
    Outcome s (exec spill s)
      (fun _ s' => Idle s.merging s' ∧ s'.stash = [] ∧ ∀ all, DInv s all → DInv s' all) (Idle s.merging) := by
  unfold spill
  rw [exec_get_bind]
  split
  next he => exact .ok rfl rfl ⟨⟨hw, hh, rfl⟩, List.isEmpty_iff.1 he, fun _ h => h⟩
  next =>
    rcases mkstemp_exec s with ⟨t, h⟩ | ⟨hf, t, h⟩
    · rw [exec_bind_ok h]
      simp only []
      rw [exec_modify_bind]
      -- the file exists and is registered; from here on only the handle `s.nextId + 2` comes and goes
      have hw1 := hw.mkstemp_reg (s' := { tr s t with
        files := s.files ++ [s.nextId], fds := s.fds ++ [s.nextId + 1], nextId := s.nextId + 2,
        paths := s.paths ++ [s.nextId], fdsReg := s.fdsReg ++ [some (s.nextId + 1)] }) rfl rfl rfl rfl rfl
      rcases gzopen_exec .gzopenW _ with ⟨t3, h3⟩ | ⟨hf3, t3, h3⟩
      · rw [exec_bind_ok h3]
        have hH : (s.handles ++ [s.nextId + 2]).erase (s.nextId + 2) = [] := by simp [hh]
        rcases TrOnly.forM (s.stash.mergeSort fun a b => a ≤ b) (fun _ => hwrite_exec.seq hwrite_exec) _
          with ⟨t4, h4⟩ | ⟨hf4, t4, h4⟩
        · rw [exec_bind_ok (exec_tryCatch_ok h4)]
          rcases hclose_exec .hcloseW (s.nextId + 2) _ with ⟨t5, h5⟩ | ⟨hf5, t5, h5⟩
          · rw [exec_bind_ok h5, exec_modify]
            exact .ok rfl rfl ⟨⟨hw1.fr ⟨rfl, Nat.le_succ _⟩, hH, rfl⟩, rfl, fun all hd => hd.spilled rfl rfl rfl⟩
          · rw [exec_bind_err h5]
            exact .err rfl hf5 rfl ⟨hw1.fr ⟨rfl, Nat.le_succ _⟩, hH, rfl⟩
        · rw [exec_bind, exec_tryCatch, h4]
          simp only []
          obtain ⟨t5, h5⟩ := swallowOS_hclose_fired .hcloseW (s.nextId + 2) (fire _ t4) rfl
          rw [exec_bind, h5]
          exact .err rfl hf4 rfl ⟨hw1.fr ⟨rfl, Nat.le_succ _⟩, hH, rfl⟩
      · rw [exec_bind_err h3]
        exact .err rfl hf3 rfl ⟨hw1.fr ⟨rfl, Nat.le_refl _⟩, hh, rfl⟩
    · rw [exec_bind_err h]
      exact .err rfl hf rfl ⟨hw.fr (Fr.refl s), hh, rfl⟩

theorem add_spec (x : Nat) (s : RState) (hw : WF s) (hh : s.handles = []) :
    Outcome s (exec (add x) s)
      (fun _ s' => Idle s.merging s' ∧ ∀ all, DInv s all → DInv s' (all ++ [x])) (Idle s.merging) := by
  unfold add
  rw [exec_modify_bind, exec_get_bind]
  have hd : ∀ all, DInv s all → DInv { s with stash := s.stash ++ [x] } (all ++ [x]) := fun all hd =>
    ⟨hd.keys, hd.sorted, by
      show (s.contents.flatMap (·.2) ++ (s.stash ++ [x])).Perm (all ++ [x])
      rw [← List.append_assoc]
      exact hd.perm.append_right _⟩
  split
  · refine Outcome.mono (Outcome.rebase (spill_spec _ (hw.fr ⟨rfl, Nat.le_refl _⟩) hh) rfl rfl) ?_ (fun _ h => h)
    rintro _ s' ⟨h1, _, h3⟩
    exact ⟨h1, fun all h => h3 _ (hd all h)⟩
  · exact .ok rfl rfl ⟨⟨hw.fr ⟨rfl, Nat.le_refl _⟩, hh, rfl⟩, hd⟩

theorem addAll_spec (keys : List Nat) (s : RState) (hw : WF s) (hh : s.handles = []) :
    Outcome s (exec (keys.forM add) s)
      (fun _ s' => Idle s.merging s' ∧ ∀ all, DInv s all → DInv s' (all ++ keys)) (Idle s.merging) := by
  induction keys generalizing s with
  | nil => exact .ok rfl rfl ⟨⟨hw, hh, rfl⟩, fun all h => by simpa using h⟩
  | cons k keys ih =>
    refine Outcome.bind (add_spec k s hw hh) ?_
    rintro _ s1 ⟨⟨h1, h2, h3⟩, h4⟩
    have := ih s1 h1 h2
    rw [h3] at this
    exact this.mono (fun _ _ g => ⟨g.1, fun all h => by simpa using g.2 _ (h4 all h)⟩) (fun _ g => g)

end ResourceLemmas
