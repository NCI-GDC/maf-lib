/-
  Lemmas behind C06, the sorting path: every line `Writer.close` emits is accepted by a
  Strict reader.  A queued (validated) record is rendered, re-read in Strict mode by the
  sorter's codec, and the record read is rendered and emitted; the values of that record come
  from parsing, so `Lemmas/Render.lean` (the fixpoint lemmas of C04) applies to each field.
-/
import MafModel.Lemmas.WriterLemmas
open Py
namespace Model

theorem fromLine_strict_ok_shape {C : Ctx} {S : Scheme} (hS : SchemeOK C S) {line : Text}
    {lineNo : Option Nat} {r' : Record} {logs : List LogRec}
    (h : Record.fromLine C line none (some S) lineNo (some .strict) = .ok (r', logs)) :
    (fieldsOf line).length = S.size ∧ logs = [] ∧ r'.errors = [] ∧ r'.slots.length = S.size ∧
    ∀ i, i < S.size → ∃ n cls sp f v, S.cols[i]? = some (n, cls) ∧ (fieldsOf line)[i]? = some f ∧
      resolveSpec C.tbl cls = some sp ∧ sp.accept C false f = some v ∧
      r'.slots[i]? = some (some (fieldCol i n cls v)) := by
  by_cases hlen : (fieldsOf line).length = S.size
  · rw [fromLine_spec hS line lineNo (some .strict) hlen, modeOrSilent] at h
    cases herr : (specFinal C S (fieldsOf line) lineNo .strict).errors with
    | cons x xs => rw [herr] at h; cases h
    | nil =>
      rw [herr] at h
      cases h
      refine ⟨hlen, rfl, herr, (fun key => ⟨?len, key⟩) fun i hi => ?slot⟩
      case slot =>
        simp only [specFinal, specRec, List.append_eq_nil_iff, List.flatMap_eq_nil_iff,
          List.mem_range] at herr
        obtain ⟨n, cls, sp, f, hp, hsp, hf⟩ := hS.at hlen hi
        have he := herr.1 i hi
        rw [errAt_eq hp hf hsp] at he
        cases ha : sp.accept C false f with
        | none => rw [ha] at he; cases he
        | some v =>
          refine ⟨n, cls, sp, f, v, hp, hf, hsp, ha, ?_⟩
          show (trimNone _)[i]? = _
          rw [trimNone_getElem?_some, specCols_getElem? C S _ _ _ hi, colAt_eq hp hf hsp, ha]
          rfl
      case len =>
        -- the last slot is filled, so no trailing empty slot was trimmed
        have hle : (specFinal C S (fieldsOf line) lineNo .strict).slots.length ≤ S.size := by
          have := trimNone_length_le (specCols C S (fieldsOf line) S.size)
          rwa [specCols_length] at this
        obtain ⟨_, _, _, _, _, _, _, _, _, hget⟩ := key (S.size - 1) (by have := hS.pos; omega)
        have := (List.getElem?_eq_some_iff.1 hget).1
        omega
  · rw [fromLine_mismatch C S line lineNo (some .strict) hlen] at h
    cases h

/-- Only `isSome`, not the same value as C04 (`Render.fix_all`) gives: the one-element list
    `[Null]` of yes/no values renders as `""`, which is accepted as the empty list. -/
theorem parsed_render_accepted {C : Ctx} (hH : Render.FloatHost.Lawful' C.H)
    (hE : Render.EnumsOK C.enums) {cls : String} {sp : ColSpec}
    (hsp : resolveSpec C.tbl cls = some sp) (hty : ClassTyped C cls)
    {f : Text} {v : PyVal} (hclean : Render.FieldClean f) (ha : sp.accept C false f = some v) :
    ∃ t', sp.render C.enums v = .ok t' ∧ Render.FieldClean t' ∧
      (sp.accept C false t').isSome = true := by
  obtain ⟨ty, hty⟩ := hty
  rw [hsp] at hty
  rw [← Builtin.accept_erase] at ha
  simp only [← ColSpec.render_erase C.enums sp, ← Builtin.accept_erase C sp]
  by_cases hse : ty = .named "SequenceOfNullableYesOrNo" ∧ Render.SingleEmpty C.enums v
  · obtain ⟨rfl, hse⟩ := hse
    have hexp : Builtin.expectedOf (.named "SequenceOfNullableYesOrNo") =
        some Expected.SequenceOfNullableYesOrNo := by decide +kernel
    rw [Option.some.inj (hty.trans hexp)]
    refine ⟨[], Classical.byContradiction fun hne => ?_, Render.fieldClean_nil, rfl⟩
    exact Render.not_singleEmpty_of_render C.enums Expected.SequenceOfNullableYesOrNo v rfl rfl hne hse
  · obtain ⟨t', hr, hc, hacc, _⟩ := Render.fix_all C hH hE ty sp.erase hty.symm f v hclean ha
      (fun e hs => hse ⟨e, hs⟩)
    exact ⟨t', hr, hc, by rw [hacc]; rfl⟩

/-- what `Writer.close` does with one queued record: `r` to `t` to `r'` (the sorter's codec), then
    `r'` to the emitted `t'` -/
theorem recode_line_accepted {C : Ctx} {S : Scheme} (hSok : SchemeOK C S)
    (htyped : ∀ p ∈ S.cols, ClassTyped C p.2)
    (hH : Render.FloatHost.Lawful' C.H) (hE : Render.EnumsOK C.enums)
    {r r' : Record} {logs lg : List LogRec} {t t' : Text}
    (hv : (r.validate C (some .strict) true (some S)).2 = .ok logs)
    (ht : r.render C = .ok t)
    (hread : Record.fromLine C t none (some S) none (some .strict) = .ok (r', lg))
    (ht' : r'.render C = .ok t') (lineNo : Option Nat) :
    StrictAccepts C S lineNo (t' ++ ['\n']) ∧ StrictAccepts C S lineNo t' := by
  obtain ⟨fields, rfl, hfl, hfclean, _⟩ := Record.render_of_validated hSok.truthy hv ht
  obtain ⟨_, _, _, hslen, hslots⟩ := fromLine_strict_ok_shape hSok hread
  rw [← List.append_nil (joinWith '\t' fields), fieldsOf_join (hfl ▸ hSok.pos) hfclean (.inl rfl)] at hslots
  obtain ⟨fields', rfl, hfl', hfi'⟩ := Record.render_ok_fields ht'
  -- every field of the second rendering is the rendering of a parsed value
  have hfield : ∀ (i : Nat) (n cls : String) (sp : ColSpec) (f' : Text),
      S.cols[i]? = some (n, cls) → resolveSpec C.tbl cls = some sp → fields'[i]? = some f' →
      hasFieldSep f' = false ∧ (sp.accept C false f').isSome = true := by
    intro i n cls sp f' hp hsp hf'
    obtain ⟨n', cls', sp', f, v, hp', hf, hsp', hacc, hslot⟩ :=
      hslots i (List.getElem?_eq_some_iff.1 hp).1
    rw [hp] at hp'; cases hp'
    rw [hsp] at hsp'; cases hsp'
    obtain ⟨g, hg, hren⟩ := hfi' i _ hslot
    rw [hf'] at hg; cases hg
    obtain ⟨t2, hr2, hc2, ha2⟩ := parsed_render_accepted hH hE hsp
      (htyped (n, cls) (List.mem_of_getElem? hp))
      (hasFieldSep_eq_false.1 (hfclean f (List.mem_of_getElem? hf))) hacc
    simp only [fieldCol, Column.render, hsp, hr2, Except.ok.injEq] at hren
    subst hren
    exact ⟨hasFieldSep_eq_false.2 hc2, ha2⟩
  have hlen' : fields'.length = S.size := by omega
  refine with_and_without_lf <| fromLine_strict_accepts hSok fields' hlen' (fun f hf => ?_)
    (fun i n cls sp f hp hsp hf => (hfield i n cls sp f hp hsp hf).2) lineNo
  obtain ⟨i, hi, rfl⟩ := List.getElem_of_mem hf
  obtain ⟨n, cls, sp, f, hp, hsp, hf⟩ := hSok.at hlen' (hlen' ▸ hi)
  obtain ⟨_, rfl⟩ := List.getElem?_eq_some_iff.1 hf
  exact (hfield i n cls sp _ hp hsp hf).1

theorem Record.keys_of_validated {C : Ctx} {r : Record} {S : Scheme} (hS : S.truthy = true)
    {logs : List LogRec} (hv : (r.validate C (some .strict) true (some S)).2 = .ok logs) :
    r.keys = S.names.map (fun n => some n.toList) := by
  obtain ⟨_, _, hlen, _, hcols⟩ := Record.validate_strict_ok hS hv
  apply List.ext_getElem?
  intro i
  by_cases hi : i < S.size
  · obtain ⟨c, hc, hvalid⟩ := hcols i hi
    obtain ⟨n, cls, hp, hk, _⟩ := hvalid.pos
    simp [Record.keys, List.getElem?_map, hc, Scheme.names, hp, hk]
  · have h1 : r.slots.length ≤ i := by omega
    have h2 : S.cols.length ≤ i := by have : S.cols.length = S.size := rfl; omega
    simp [Record.keys, Scheme.names, List.getElem?_map, List.getElem?_eq_none h1,
      List.getElem?_eq_none h2]

/-- C06 on the sorting path: every line `close` emits is accepted by a Strict reader.  `hq` is how
    `writer += record` queues records, see `C06.queue_validated`. -/
theorem Writer.close_lines_accepted {C : Ctx} {K : HConsts} {w : Writer} {S : Scheme}
    (hSok : SchemeOK C S) (htyped : ∀ p ∈ S.cols, ClassTyped C p.2)
    (hH : Render.FloatHost.Lawful' C.H) (hE : Render.EnumsOK C.enums)
    (hs : w.scheme = some S) (hsort : w.sorting = true)
    (hq : ∀ r ∈ w.queued, ∃ logs, (r.validate C (some .strict) true (some S)).2 = .ok logs)
    {lines : List Text} (hout : (w.close C K).1.out = w.out ++ lines) (lineNo : Option Nat) :
    ∀ l ∈ lines, ∃ r', Record.fromLine C l none (some S) lineNo (some .strict) = .ok (r', []) ∧
      r'.errors = [] := by
  obtain ⟨items, lines', hout', hperm, hall, _⟩ := (Writer.close_spec C K w).2 hsort
  cases List.append_cancel_left (hout'.symm.trans hout)
  intro l hl
  obtain ⟨kr, hkr, t, r', lg, t', ht, hread, ht', rfl⟩ := forall₂_mem_right hall hl
  have hmem : kr.2 ∈ w.queued := by
    have := hperm.mem_iff.1 (List.mem_of_mem_take hkr)
    simp only [keyedOf, List.mem_filterMap] at this
    obtain ⟨r, hr, hk⟩ := this
    split at hk
    · cases hk; exact hr
    · cases hk
  obtain ⟨logs, hv⟩ := hq _ hmem
  -- the codec's column names, the keys of the first queued record, are the names of the scheme
  obtain ⟨r0, rest, hq0⟩ := List.exists_cons_of_ne_nil (List.ne_nil_of_mem hmem)
  obtain ⟨logs0, hv0⟩ := hq r0 (by rw [hq0]; simp)
  have hnames : codecNamesOf w = some (S.names.map String.toList) := by
    simp only [codecNamesOf, hq0, List.head?_cons, Option.map_some,
      Record.keys_of_validated hSok.truthy hv0, List.map_map]
    rfl
  rw [hnames, hs] at hread
  exact (recode_line_accepted hSok htyped hH hE hv ht hread ht' lineNo).1

/-! ### `close` on a queue already in key order

Used to evaluate examples: `mergeSort` does not reduce in the kernel. -/

section sorted
variable {α : Type}

theorem foldl_add_stash (lt : α → α → Bool) (xs : List α) (s : Sorter α)
    (h : s.stash.length + xs.length < s.cap) :
    xs.foldl (Sorter.add lt) s = { s with stash := s.stash ++ xs } := by
  induction xs generalizing s with
  | nil => simp
  | cons x xs ih =>
    simp only [List.length_cons] at h
    have hne : ¬ ((s.stash ++ [x]).length = s.cap) := by simp; omega
    have hadd : Sorter.add lt s x = { s with stash := s.stash ++ [x] } := by
      simp only [Sorter.add]
      rw [if_neg hne]
    rw [List.foldl_cons, hadd, ih _ (by simp; omega)]
    simp

theorem mergeK_single (lt : α → α → Bool) (l : List α) :
    ∀ n, l.length ≤ n → mergeK lt n [l] = l := by
  induction l with
  | nil =>
    intro n _
    cases n with
    | zero => rfl
    | succ n => simp [mergeK, minHead]
  | cons x xs ih =>
    intro n hn
    cases n with
    | zero => simp at hn
    | succ n =>
      simp only [mergeK, minHead]
      have : ([x :: xs] : List (List α)).modify 0 List.tail = [xs] := rfl
      rw [this, ih n (by simpa using hn)]

theorem sortAll_of_sorted (lt : α → α → Bool) (cap : Nat) (xs : List α) (hlen : xs.length < cap)
    (hs : xs.Pairwise (fun a b => (!lt b a) = true)) : sortAll lt cap true xs = xs := by
  unfold sortAll
  rw [foldl_add_stash lt xs _ (by simpa using hlen)]
  simp only [List.nil_append, Sorter.iter, Bool.or_true, if_true, Sorter.spill]
  cases xs with
  | nil => simp [totalLen, mergeK]
  | cons x xs =>
    simp only [List.isEmpty_cons, Bool.false_eq_true, if_false, sortChunk]
    rw [List.mergeSort_of_pairwise hs]
    exact mergeK_single lt _ _ (by simp [totalLen])

end sorted

/-- One conjunction of hypotheses, so that for a concrete writer a single evaluation decides them
    all. -/
theorem Writer.close_of_sorted (C : Ctx) (K : HConsts) (w : Writer) (lines : List Text)
    (h : w.sorting = true ∧ (keyedOf K w).length < 10000 ∧
      (keyedOf K w).Pairwise (fun a b => (!closeLt b a) = true) ∧
      (Writer.close.drain C (codecNamesOf w) w (keyedOf K w)).1.out = w.out ++ lines) :
    (w.close C K).1.out = w.out ++ lines := by
  rw [Writer.close_of_sorting C K h.1, sortAll_of_sorted closeLt 10000 (keyedOf K w) h.2.1 h.2.2.1]
  exact h.2.2.2

end Model
