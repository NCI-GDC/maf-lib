/-
  Lemmas behind C06 (the rendering half also serves C02), about `MafWriter.__iadd__` and `close`
  of `maflib/writer.py`: a record that passes Strict validation against the writer's scheme
  renders to a line that a Strict `from_line` accepts.
-/
import MafModel.Lemmas.FromLineLemmas
import MafModel.Lemmas.FromLineAccept
import MafModel.Lemmas.TextLemmas
import MafModel.Lemmas.RenderValid
import MafModel.Lemmas.SorterLemmas
import MafModel.Lemmas.SortOrderLemmas
import MafModel.Model.Writer
open Py
namespace Model

/-! ### `processErrors` in Strict mode -/

theorem processErrors_strict_ok {errs : List VErr} {logs : List LogRec}
    (h : processErrors .strict errs = .ok logs) : errs = [] ∧ logs = [] := by
  cases errs with
  | nil => simp [processErrors] at h; exact ⟨rfl, h⟩
  | cons e es => simp [processErrors] at h

theorem processErrors_strict_error {errs : List VErr} {e : PyErr}
    (h : processErrors .strict errs = .error e) :
    ∃ x ∈ errs, e = .format x.tpe x.line := by
  cases errs with
  | nil => simp [processErrors] at h
  | cons x es =>
    simp only [processErrors, Except.error.injEq] at h
    exact ⟨x, by simp, h.symm⟩

/-! ### scheme lookups by a name, without assuming distinct names -/

theorem Scheme.columnIndex_some {S : Scheme} {n : String} {i : Nat}
    (h : S.columnIndex n = some i) :
    ∃ cls, S.cols[i]? = some (n, cls) ∧ S.columnClass n = some cls := by
  unfold Scheme.columnIndex at h
  simp only [Option.ite_none_right_eq_some, Option.some.injEq] at h
  obtain ⟨hlt, rfl⟩ := h
  obtain ⟨⟨m, cls⟩, hget⟩ : ∃ p, S.cols[S.cols.findIdx (fun p => p.1 == n)]? = some p :=
    ⟨_, List.getElem?_eq_getElem hlt⟩
  have hm : m = n := by simpa using List.findIdx_of_getElem?_eq_some hget
  subst hm
  refine ⟨cls, hget, ?_⟩
  unfold Scheme.columnClass
  rw [List.find?_eq_getElem?_findIdx, hget]
  rfl

theorem Scheme.truthy_filter {S : Scheme} (hS : S.truthy = true) :
    (some S).filter Scheme.truthy = some S := by
  simp [Option.filter, hS]

/-! ### what a column without validation errors looks like -/

/-- what the scheme part of `column.validate` guarantees about a column stored under the scheme
    class `cls`: the column is exactly of that class, or the scheme class is the unrestricted
    `MafColumnRecord`, or the column's "twin" — the same name, value and index as an instance of
    the scheme's class — has a valid value and the same rendering -/
def TwinOK (C : Ctx) (col : Column) (cls : String) : Prop :=
  col.cls = cls ∨ cls = "MafColumnRecord" ∨
    (Column.valueInvalid C { col with cls := cls } = false ∧
      exceptTextEq (Column.render C { col with cls := cls }) (col.render C) = true)

/-- what Strict `record.validate` against `S` guarantees of the column in slot `i`
    (`Record.validate_strict_ok`) -/
structure ColValidAt (C : Ctx) (S : Scheme) (i : Nat) (c : Column) : Prop where
  pos : ∃ n cls, S.cols[i]? = some (n, cls) ∧ c.key = n.toList ∧ isSubclass C c.cls cls = true
  index : c.index = some (i : Int)
  valid : c.valueInvalid C = false
  framed : ∀ t, c.render C = .ok t → hasFieldSep t = false
  twin : ∀ n cls, S.cols[i]? = some (n, cls) → TwinOK C c cls

theorem Column.validate_nil {C : Ctx} {col : Column} {scheme : Option Scheme} {line : Option Nat}
    (h : col.validate C scheme line = []) :
    col.valueInvalid C = false ∧ col.schemeErrors C scheme line = [] := by
  unfold Column.validate at h
  rw [List.append_eq_nil_iff] at h
  refine ⟨?_, h.2⟩
  cases hv : col.valueInvalid C with
  | false => rfl
  | true => rw [hv] at h; simp at h

theorem Column.schemeErrors_nil {C : Ctx} {col : Column} {S : Scheme} {line : Option Nat}
    (hS : S.truthy = true) {i : Nat} (hi : col.index = some (i : Int))
    (h : col.schemeErrors C (some S) line = []) :
    ∃ n cls, S.cols[i]? = some (n, cls) ∧ col.key = n.toList ∧ isSubclass C col.cls cls = true ∧
      (col.valueInvalid C = false → TwinOK C col cls) := by
  unfold Column.schemeErrors at h
  rw [Scheme.truthy_filter hS] at h
  simp only at h
  cases hci : S.columnIndex (String.ofList col.key) with
  | none => rw [hci] at h; cases h
  | some si =>
    obtain ⟨cls, hget, hcc⟩ := Scheme.columnIndex_some hci
    rw [hci, hcc] at h
    simp only at h
    by_cases hidx : col.index.isSome ∧ col.index ≠ some (si : Int)
    · rw [if_pos hidx] at h; cases h
    by_cases hsub : (!isSubclass C col.cls cls) = true
    · rw [if_neg hidx, if_pos hsub] at h; cases h
    rw [if_neg hidx, if_neg hsub] at h
    simp only [hi, Option.isSome_some, ne_eq, Option.some.injEq, true_and, Decidable.not_not,
      Int.natCast_inj] at hidx
    subst hidx
    refine ⟨_, cls, hget, by simp, by simpa using hsub, fun hv => ?_⟩
    by_cases h1 : col.cls = cls
    · exact .inl h1
    by_cases h2 : cls = "MafColumnRecord"
    · exact .inr (.inl h2)
    rw [if_pos ⟨h1, h2, by simp [hv]⟩] at h
    by_cases hno : Column.valueInvalid C { col with cls := cls } = true ∨
        (!exceptTextEq (Column.render C { col with cls := cls }) (col.render C)) = true
    · rw [if_pos hno] at h; cases h
    · simp only [not_or, Bool.not_eq_true, Bool.not_eq_eq_eq_not, Bool.not_true] at hno
      exact .inr (.inr ⟨hno.1, by simpa using hno.2⟩)
theorem Record.columnErrors_nil {C : Ctx} {r : Record} {S : Scheme} {c : RCol}
    (hS : S.truthy = true) (h : r.columnErrors C (some S) c = []) :
    c.col.validate C (some S) none = [] ∧
      ∀ t, c.col.render C = .ok t → hasFieldSep t = false := by
  unfold Record.columnErrors at h
  rw [Scheme.truthy_filter hS] at h
  simp only [Option.isSome_some, Bool.true_and] at h
  cases hv : c.col.validate C (some S) none with
  | cons e es => rw [hv] at h; simp at h
  | nil =>
    rw [hv] at h
    simp only [List.isEmpty_nil, if_true] at h
    refine ⟨rfl, fun t ht => ?_⟩
    rw [ht] at h
    simp only at h
    cases hf : hasFieldSep t with
    | false => rfl
    | true => rw [hf] at h; simp at h

theorem Record.syncErrors_nil_index {r : Record} (h : r.syncErrors = []) {i : Nat} {c : RCol}
    (hs : r.slots[i]? = some (some c)) : c.col.index = some (i : Int) := by
  unfold Record.syncErrors at h
  simp only [List.append_eq_nil_iff, List.filterMap_eq_nil_iff] at h
  have := h.2 (some c, i) (List.mem_zipIdx_iff_getElem?.2 hs)
  simp only at this
  split at this
  · rename_i hb; simpa using hb
  · cases this

/-! ### `Record.validate` in Strict mode -/

theorem Record.validate_errors (C : Ctx) (r : Record) (mode : Option Mode) (scheme : Option Scheme) :
    (r.validate C mode true scheme).1 = { r with errors := (r.validate C mode true scheme).1.errors } ∧
    (r.validate C mode true scheme).2 =
      processErrors (mode.getD r.mode) (r.validate C mode true scheme).1.errors := by
  constructor <;> rfl

theorem Record.validate_slots (C : Ctx) (r : Record) (mode : Option Mode) (reset : Bool)
    (scheme : Option Scheme) :
    (r.validate C mode reset scheme).1.slots = r.slots ∧
    (r.validate C mode reset scheme).1.dict = r.dict := by
  constructor <;> rfl

theorem Record.validate_strict_ok {C : Ctx} {r : Record} {S : Scheme} (hS : S.truthy = true)
    {logs : List LogRec}
    (h : (r.validate C (some .strict) true (some S)).2 = .ok logs) :
    (r.validate C (some .strict) true (some S)).1.errors = [] ∧ logs = [] ∧
    r.slots.length = S.size ∧ r.syncErrors = [] ∧
    ∀ i, i < S.size → ∃ c, r.slots[i]? = some (some c) ∧ ColValidAt C S i c.col := by
  obtain ⟨herr, hlogs⟩ := processErrors_strict_ok h
  refine ⟨herr, hlogs, ?_⟩
  simp only [if_true, Scheme.truthy_filter hS, List.nil_append,
    List.append_eq_nil_iff, List.flatMap_eq_nil_iff] at herr
  obtain ⟨⟨h1, h2⟩, h3⟩ := herr
  have hlen : r.slots.length = S.size := by
    by_cases hne : S.size ≠ r.slots.length
    · rw [if_pos hne] at h1; cases h1
    · omega
  -- an empty slot is an error of the second group, so the third group was collected
  have hsome : ∀ o ∈ r.slots, ∃ c, o = some c := by
    intro o ho
    cases o with
    | none => cases h2 none ho
    | some c => exact ⟨c, rfl⟩
  have hnone : r.slots.any (·.isNone) = false :=
    List.any_eq_false.2 fun o ho => by obtain ⟨c, rfl⟩ := hsome o ho; simp
  rw [hnone, if_neg Bool.false_ne_true] at h3
  refine ⟨hlen, h3, fun i hi => ?_⟩
  obtain ⟨o, hget⟩ : ∃ o, r.slots[i]? = some o := ⟨_, List.getElem?_eq_getElem (by omega)⟩
  obtain ⟨c, rfl⟩ := hsome _ (List.mem_of_getElem? hget)
  obtain ⟨hval, hframed⟩ := Record.columnErrors_nil hS (h2 _ (List.mem_of_getElem? hget))
  obtain ⟨hvi, hse⟩ := Column.validate_nil hval
  have hidx := Record.syncErrors_nil_index h3 hget
  obtain ⟨n, cls, hp, hk, hsub, htw⟩ := Column.schemeErrors_nil hS hidx hse
  exact ⟨c, hget, ⟨n, cls, hp, hk, hsub⟩, hidx, hvi, hframed, fun n' cls' hp' => by
    rw [hp] at hp'; cases hp'; exact htw hvi⟩

/-! ### the sorter's key of a record -/

theorem Writer.keyOf_of_hasCoords {K : HConsts} {w : Writer} {r : Record}
    (h : r.toLoc.hasCoords = true) :
    w.keyOf K r = mkKey (w.header.sortOrder K).1 (w.header.sortOrder K).2 r.toLoc := by
  unfold Writer.keyOf
  simp only [h, if_true]

/-- `KeyError`, or the `ValueError` of a chromosome that is missing from the contig list -/
theorem Writer.keyOf_no_coords {K : HConsts} {w : Writer} {r : Record}
    (h : r.toLoc.hasCoords = false) :
    w.keyOf K r = .error .key ∨
      (w.keyOf K r = .error .value ∧ (w.header.sortOrder K).2 ≠ []) := by
  unfold Writer.keyOf
  simp only [h, Bool.false_eq_true, if_false]
  split
  · exact .inl rfl
  · split
    · rename_i hk
      exact .inr ⟨rfl, (mkKey_valueError_iff.1 hk).2.1⟩
    · exact .inl rfl

/-- the key function of the sorter fails only with `KeyError` (missing coordinates, or a position
    text that is not a number) or `ValueError` (chromosome missing from the contig list) -/
theorem Writer.keyOf_error_kinds {K : HConsts} {w : Writer} {r : Record} {e : PyErr}
    (h : w.keyOf K r = .error e) : e = .key ∨ e = .value := by
  cases h0 : r.toLoc.hasCoords with
  | true => exact mkKey_error_kind (Writer.keyOf_of_hasCoords h0 ▸ h)
  | false =>
    rcases Writer.keyOf_no_coords (K := K) (w := w) h0 with hk | ⟨hk, _⟩ <;> rw [hk] at h <;> cases h
    · exact .inl rfl
    · exact .inr rfl

theorem Writer.keyOf_bad_position {K : HConsts} {w : Writer} {r : Record}
    (h0 : r.toLoc.hasCoords = true) (hc : r.toLoc.chrOk (w.header.sortOrder K).2)
    (hp : r.toLoc.start.posOk = false ∨ r.toLoc.stop.posOk = false) :
    w.keyOf K r = .error .key := by
  rw [Writer.keyOf_of_hasCoords h0]
  exact mkKey_bad_position h0 hc hp

/-- the `ValueError` of the sorter's key function is the missing-contig error -/
theorem Writer.keyOf_valueError {K : HConsts} {w : Writer} {r : Record}
    (h : w.keyOf K r = .error .value) :
    (w.header.sortOrder K).2 ≠ [] ∧
    (r.toLoc.hasCoords = true →
      ∀ s, r.toLoc.chrName = some s → s ∉ (w.header.sortOrder K).2) := by
  cases h0 : r.toLoc.hasCoords with
  | true =>
    rw [Writer.keyOf_of_hasCoords h0] at h
    have := mkKey_valueError_iff.1 h
    exact ⟨this.2.1, fun _ => this.2.2⟩
  | false =>
    rcases Writer.keyOf_no_coords (K := K) (w := w) h0 with hk | ⟨_, hne⟩
    · rw [hk] at h; cases h
    · exact ⟨hne, nofun⟩

/-! ### `writer += record` with a scheme already set -/

theorem Writer.write_of_scheme (C : Ctx) (K : HConsts) (w : Writer) (r : Record) {S : Scheme}
    (hs : w.scheme = some S) (hS : S.truthy = true) :
    w.write C K r =
      match r.validate C (some w.mode) true (some S) with
      | (_, .error e) => (w, .error e)
      | (r', .ok _) =>
        if w.sorting then
          match w.keyOf K r', r'.render C with
          | .error e, _ => (w, .error e)
          | _, .error e => (w, .error e)
          | .ok _, .ok _ => ({ w with queued := w.queued ++ [r'] }, .ok ())
        else
          match r'.render C with
          | .error e => (w, .error e)
          | .ok t => ({ w with out := w.out ++ [t ++ ['\n']] }, .ok ()) := by
  unfold Writer.write
  simp only [hs, Scheme.truthy_filter hS]
  rcases r.validate C (some w.mode) true (some S) with ⟨r', (e | l)⟩
  · rfl
  · simp only
    by_cases hsort : w.sorting = true
    · simp only [hsort, if_true]
      cases w.keyOf K r' <;> cases r'.render C <;> rfl
    · simp only [hsort]
      cases r'.render C <;> rfl

theorem Record.render_validate (C : Ctx) (r : Record) (m : Option Mode) (b : Bool)
    (s : Option Scheme) : (r.validate C m b s).1.render C = r.render C := rfl

/-- the outcomes of `writer += record` for a Strict writer whose scheme is set.  Either it raises
    and the writer is as before — the exception being that of validation, else (when sorting) of
    the sorter's key function, else of `str(record)` — or the record validated and was rendered,
    and its line was written (direct) or the validated record was queued (sorting). -/
theorem Writer.write_cases (C : Ctx) (K : HConsts) {w : Writer} (r : Record) {S : Scheme}
    (hs : w.scheme = some S) (hS : S.truthy = true) (hm : w.mode = .strict) :
    (∃ e, w.write C K r = (w, .error e) ∧
      ((r.validate C (some .strict) true (some S)).2 = .error e ∨
       (r.validate C (some .strict) true (some S)).2 = .ok [] ∧
         (w.sorting = true ∧ w.keyOf K r = .error e ∨
          (w.sorting = true → ∃ k, w.keyOf K r = .ok k) ∧ r.render C = .error e))) ∨
    (r.validate C (some .strict) true (some S)).2 = .ok [] ∧ ∃ t, r.render C = .ok t ∧
      (w.sorting = false ∧
         w.write C K r = ({ w with out := w.out ++ [t ++ ['\n']] }, .ok ()) ∨
       w.sorting = true ∧ (∃ k, w.keyOf K r = .ok k) ∧
         w.write C K r =
           ({ w with queued := w.queued ++ [(r.validate C (some .strict) true (some S)).1] }, .ok ())) := by
  rw [Writer.write_of_scheme C K w r hs hS, hm]
  -- `validate` only replaces the error list: keys and renderings are those of the record
  have hkey : w.keyOf K (r.validate C (some .strict) true (some S)).1 = w.keyOf K r := rfl
  have hren := Record.render_validate C r (some .strict) true (some S)
  have hlogs := fun l (h : (r.validate C (some .strict) true (some S)).2 = .ok l) =>
    (processErrors_strict_ok h).2
  generalize r.validate C (some .strict) true (some S) = V at hkey hren hlogs ⊢
  obtain ⟨r', e | l⟩ := V
  · exact .inl ⟨e, rfl, .inl rfl⟩
  · simp only at hkey hren ⊢
    cases hlogs l rfl
    rw [hkey, hren]
    cases hsort : w.sorting with
    | false =>
      cases hr : r.render C with
      | error e => exact .inl ⟨e, rfl, .inr ⟨rfl, .inr ⟨nofun, rfl⟩⟩⟩
      | ok t => exact .inr ⟨rfl, t, rfl, .inl ⟨rfl, rfl⟩⟩
    | true =>
      cases hk : w.keyOf K r with
      | error e => exact .inl ⟨e, rfl, .inr ⟨rfl, .inl ⟨rfl, rfl⟩⟩⟩
      | ok k =>
        cases hr : r.render C with
        | error e => exact .inl ⟨e, rfl, .inr ⟨rfl, .inr ⟨fun _ => ⟨k, rfl⟩, rfl⟩⟩⟩
        | ok t => exact .inr ⟨rfl, t, rfl, .inr ⟨rfl, ⟨k, rfl⟩, rfl⟩⟩

theorem Writer.write_of_invalid {C : Ctx} {K : HConsts} {w : Writer} {r : Record} {S : Scheme}
    (hs : w.scheme = some S) (hS : S.truthy = true) (hm : w.mode = .strict) {e : PyErr}
    (hv : (r.validate C (some .strict) true (some S)).2 = .error e) :
    w.write C K r = (w, .error e) := by
  rcases Writer.write_cases C K r hs hS hm with
    ⟨e', hw, hv' | ⟨hv', _⟩⟩ | ⟨hv', _⟩ <;> rw [hv] at hv' <;> cases hv'
  exact hw

theorem Writer.write_of_unkeyable {C : Ctx} {K : HConsts} {w : Writer} {r : Record} {S : Scheme}
    (hs : w.scheme = some S) (hS : S.truthy = true) (hm : w.mode = .strict)
    (hsort : w.sorting = true) {lg : List LogRec}
    (hv : (r.validate C (some .strict) true (some S)).2 = .ok lg) {e : PyErr}
    (hk : w.keyOf K r = .error e) : w.write C K r = (w, .error e) := by
  rcases Writer.write_cases C K r hs hS hm with
    ⟨e', hw, hv' | ⟨_, ⟨_, hk'⟩ | ⟨hk', _⟩⟩⟩ | ⟨_, _, _, ⟨hsort', _⟩ | ⟨_, ⟨k, hk'⟩, _⟩⟩
  · rw [hv] at hv'; cases hv'
  · rw [hk] at hk'; cases hk'; exact hw
  · obtain ⟨k, hk'⟩ := hk' hsort
    rw [hk] at hk'; cases hk'
  · rw [hsort] at hsort'; cases hsort'
  · rw [hk] at hk'; cases hk'

theorem Writer.write_direct_iff {C : Ctx} {K : HConsts} {w w' : Writer} {r : Record} {S : Scheme}
    (hs : w.scheme = some S) (hS : S.truthy = true) (hsort : w.sorting = false) :
    w.write C K r = (w', .ok ()) ↔
      ∃ t lg, r.render C = .ok t ∧ (r.validate C (some w.mode) true (some S)).2 = .ok lg ∧
        w' = { w with out := w.out ++ [t ++ ['\n']] } := by
  rw [Writer.write_of_scheme C K w r hs hS]
  have hren := Record.render_validate C r (some w.mode) true (some S)
  generalize r.validate C (some w.mode) true (some S) = V at hren
  rcases V with ⟨r', (e' | l)⟩
  · exact ⟨nofun, fun ⟨_, _, _, hv, _⟩ => nomatch hv⟩
  · simp only [hsort, Bool.false_eq_true, if_false] at hren ⊢
    rw [hren]
    cases hr : r.render C with
    | error er => exact ⟨nofun, fun ⟨_, _, ht, _⟩ => nomatch ht⟩
    | ok t =>
      exact ⟨fun h => ⟨t, l, rfl, rfl, (Prod.mk.inj h).1.symm⟩,
        fun ⟨_, _, ht, _, hw⟩ => by cases ht; rw [hw]⟩

theorem Writer.write_direct_strict {C : Ctx} {K : HConsts} {w w' : Writer} {r : Record} {S : Scheme}
    (hs : w.scheme = some S) (hS : S.truthy = true) (hm : w.mode = .strict)
    (hsort : w.sorting = false) :
    w.write C K r = (w', .ok ()) ↔
      ∃ t, (r.validate C (some .strict) true (some S)).2 = .ok [] ∧ r.render C = .ok t ∧
        w' = { w with out := w.out ++ [t ++ ['\n']] } := by
  refine (Writer.write_direct_iff hs hS hsort).trans
    ⟨fun ⟨t, lg, ht, hv, hw⟩ => ?_, fun ⟨t, hv, ht, hw⟩ => ⟨t, [], ht, by rw [hm]; exact hv, hw⟩⟩
  rw [hm] at hv
  obtain rfl := (processErrors_strict_ok hv).2
  exact ⟨t, hv, ht, hw⟩

/-! ### `List.mapM` in `Except` -/

theorem mapM_ok_getElem? {α β ε : Type} (f : α → Except ε β) :
    ∀ (l : List α) (ys : List β), l.mapM f = .ok ys →
      ys.length = l.length ∧
        ∀ (i : Nat) (a : α), l[i]? = some a → ∃ y, ys[i]? = some y ∧ f a = .ok y := by
  intro l
  induction l with
  | nil =>
    intro ys h
    cases h
    exact ⟨rfl, nofun⟩
  | cons a l ih =>
    intro ys h
    simp only [List.mapM_cons, bind, Except.bind] at h
    cases hf : f a with
    | error e => rw [hf] at h; cases h
    | ok b =>
      cases hm : l.mapM f with
      | error e => rw [hf, hm] at h; cases h
      | ok bs =>
        rw [hf, hm] at h
        cases h
        obtain ⟨hl, hi⟩ := ih bs hm
        refine ⟨by simp [hl], fun i x hx => ?_⟩
        cases i with
        | zero => cases hx; exact ⟨b, rfl, hf⟩
        | succ i => exact hi i x hx

theorem mapM_eq_ok_of_getElem {α β ε : Type} (f : α → Except ε β) :
    ∀ (l : List α) (ys : List β), l.length = ys.length →
      (∀ (i : Nat) (a : α) (y : β), l[i]? = some a → ys[i]? = some y → f a = .ok y) →
      l.mapM f = .ok ys
  | [], [], _, _ => rfl
  | a :: l, y :: ys, hl, h => by
    rw [List.mapM_cons, h 0 a y rfl rfl,
      mapM_eq_ok_of_getElem f l ys (Nat.succ.inj hl) (fun i => h (i + 1))]
    rfl

theorem map_mapM_ok_of_forall {α β γ ε : Type} (g : List β → γ) (f : α → Except ε β) (l : List α)
    (h : ∀ a ∈ l, ∃ b, f a = .ok b) : ∃ t, Except.map g (l.mapM f) = .ok t := by
  suffices ∃ bs, l.mapM f = .ok bs by
    obtain ⟨bs, hbs⟩ := this
    exact ⟨g bs, by rw [hbs]; rfl⟩
  induction l with
  | nil => exact ⟨[], rfl⟩
  | cons a l ih =>
    obtain ⟨b, hb⟩ := h a (by simp)
    obtain ⟨bs, hbs⟩ := ih (fun x hx => h x (by simp [hx]))
    exact ⟨b :: bs, by simp [List.mapM_cons, hb, hbs, bind, Except.bind, pure, Except.pure]⟩

/-! ### the rendering of a validated record -/

theorem Record.render_ok_fields {C : Ctx} {r : Record} {t : Text} (h : r.render C = .ok t) :
    ∃ fields : List Text, t = joinWith '\t' fields ∧ fields.length = r.slots.length ∧
      ∀ (i : Nat) (c : RCol), r.slots[i]? = some (some c) →
        ∃ f, fields[i]? = some f ∧ c.col.render C = .ok f := by
  unfold Record.render at h
  generalize hm : List.mapM (m := Except PyErr) (β := Text) _ r.slots = res at h
  cases res with
  | error e => cases h
  | ok fs =>
    cases h
    obtain ⟨hl, hi⟩ := mapM_ok_getElem? _ _ _ hm
    exact ⟨fs, rfl, hl, fun i c hc => hi i (some c) hc⟩

theorem Record.render_of_validated {C : Ctx} {r : Record} {S : Scheme} (hS : S.truthy = true)
    {logs : List LogRec} (hv : (r.validate C (some .strict) true (some S)).2 = .ok logs)
    {t : Text} (ht : r.render C = .ok t) :
    ∃ fields : List Text, t = joinWith '\t' fields ∧ fields.length = S.size ∧
      (∀ f ∈ fields, hasFieldSep f = false) ∧
      ∀ i, i < S.size → ∃ c f, r.slots[i]? = some (some c) ∧ fields[i]? = some f ∧
        ColValidAt C S i c.col ∧ c.col.render C = .ok f := by
  obtain ⟨_, _, hlen, _, hcols⟩ := Record.validate_strict_ok hS hv
  obtain ⟨fields, hjoin, hfl, hfi⟩ := Record.render_ok_fields ht
  refine ⟨fields, hjoin, by omega, fun f hf => ?_, fun i hi => ?_⟩
  · obtain ⟨i, hi, rfl⟩ := List.getElem_of_mem hf
    obtain ⟨c, hc, hvalid⟩ := hcols i (by omega)
    obtain ⟨f', hf', hcf⟩ := hfi i c hc
    rw [List.getElem?_eq_getElem hi] at hf'
    cases hf'
    exact hvalid.framed _ hcf
  · obtain ⟨c, hc, hvalid⟩ := hcols i hi
    obtain ⟨f, hf, hcf⟩ := hfi i c hc
    exact ⟨c, f, hc, hf, hvalid, hcf⟩

/-! ### a Strict reader on a line whose every field is accepted -/

theorem hasFieldSep_eq_false {t : Text} :
    hasFieldSep t = false ↔ ∀ c ∈ t, c ≠ '\t' ∧ c ≠ '\n' ∧ c ≠ '\r' := by
  simp only [hasFieldSep, List.any_eq_false, Bool.or_eq_true, decide_eq_true_eq, not_or, and_assoc]

def StrictAccepts (C : Ctx) (S : Scheme) (lineNo : Option Nat) (line : Text) : Prop :=
  ∃ r', Record.fromLine C line none (some S) lineNo (some .strict) = .ok (r', []) ∧ r'.errors = []

theorem with_and_without_lf {P : Text → Prop} {line : Text}
    (h : ∀ term, term = [] ∨ term = ['\n'] ∨ term = ['\r', '\n'] → P (line ++ term)) :
    P (line ++ ['\n']) ∧ P line :=
  ⟨h _ (.inr (.inl rfl)), List.append_nil line ▸ h [] (.inl rfl)⟩

theorem fieldsOf_join {fields : List Text} (hpos : 0 < fields.length)
    (hclean : ∀ f ∈ fields, hasFieldSep f = false)
    {term : Text} (hterm : term = [] ∨ term = ['\n'] ∨ term = ['\r', '\n']) :
    fieldsOf (joinWith '\t' fields ++ term) = fields := by
  have hcl : ∀ c ∈ joinWith '\t' fields, c ≠ '\r' ∧ c ≠ '\n' :=
    joinWith_tab_clean fields fun f hf c hc =>
      have := hasFieldSep_eq_false.1 (hclean f hf) c hc
      ⟨this.2.2, this.2.1⟩
  have hstrip : rstripCRLF (joinWith '\t' fields ++ term) = joinWith '\t' fields := by
    rcases hterm with rfl | rfl | rfl
    · rw [List.append_nil]; exact rstripCRLF_of_clean _ hcl
    · exact (rstripCRLF_append_lf _ hcl).1
    · exact (rstripCRLF_append_lf _ hcl).2.1
  unfold fieldsOf
  rw [hstrip]
  exact splitOn_tab_join fields (List.ne_nil_of_length_pos hpos) fun f hf hc => (hasFieldSep_eq_false.1 (hclean f hf) _ hc).1 rfl

theorem SchemeOK.truthy {C : Ctx} {S : Scheme} (hS : SchemeOK C S) : S.truthy = true := by
  simp [Scheme.truthy, hS.pos]

theorem SchemeOK.at {C : Ctx} {S : Scheme} (hS : SchemeOK C S) {fields : List Text}
    (hlen : fields.length = S.size) {i : Nat} (hi : i < S.size) :
    ∃ n cls sp f, S.cols[i]? = some (n, cls) ∧ resolveSpec C.tbl cls = some sp ∧
      fields[i]? = some f := by
  obtain ⟨⟨n, cls⟩, hp⟩ : ∃ p, S.cols[i]? = some p := ⟨_, List.getElem?_eq_getElem hi⟩
  obtain ⟨sp, hsp, _⟩ := hS.cls_ok _ (List.mem_of_getElem? hp)
  exact ⟨n, cls, sp, _, hp, hsp, List.getElem?_eq_getElem (hlen ▸ hi)⟩

theorem specFinal_errors_nil {C : Ctx} {S : Scheme} (hS : SchemeOK C S) (fields : List Text)
    (hlen : fields.length = S.size) (lineNo : Option Nat) (m : Mode)
    (hall : ∀ (i : Nat) (n cls : String) (sp : ColSpec) (f : Text),
      S.cols[i]? = some (n, cls) → resolveSpec C.tbl cls = some sp → fields[i]? = some f →
      (sp.accept C false f).isSome = true) :
    (specFinal C S fields lineNo m).errors = [] := by
  simp only [specFinal, specRec, List.append_eq_nil_iff, List.flatMap_eq_nil_iff, List.mem_range,
    noValueErrs_eq_nil_iff]
  have key : ∀ i, i < S.size → errAt C S fields lineNo i = [] ∧
      ∃ c, colAt C S fields i = some c := by
    intro i hi
    obtain ⟨n, cls, sp, f, hp, hsp, hf⟩ := hS.at hlen hi
    obtain ⟨v, ha⟩ := Option.isSome_iff_exists.1 (hall i n cls sp f hp hsp hf)
    rw [errAt_eq hp hf hsp, colAt_eq hp hf hsp, ha]
    exact ⟨rfl, _, rfl⟩
  refine ⟨fun i hi => (key i hi).1, fun hmem => ?_⟩
  have := mem_trimNone hmem
  simp only [specCols, List.mem_map, List.mem_range] at this
  obtain ⟨j, hj, hc⟩ := this
  obtain ⟨c, hc'⟩ := (key j hj).2
  rw [hc'] at hc; cases hc

theorem fromLine_strict_accepts {C : Ctx} {S : Scheme} (hS : SchemeOK C S) (fields : List Text)
    (hlen : fields.length = S.size)
    (hclean : ∀ f ∈ fields, hasFieldSep f = false)
    (hall : ∀ (i : Nat) (n cls : String) (sp : ColSpec) (f : Text),
      S.cols[i]? = some (n, cls) → resolveSpec C.tbl cls = some sp → fields[i]? = some f →
      (sp.accept C false f).isSome = true)
    (lineNo : Option Nat) (term : Text) (hterm : term = [] ∨ term = ['\n'] ∨ term = ['\r', '\n']) :
    StrictAccepts C S lineNo (joinWith '\t' fields ++ term) := by
  have hfields := fieldsOf_join (hlen ▸ hS.pos) hclean hterm
  have hspec := fromLine_spec hS (joinWith '\t' fields ++ term) lineNo (some .strict)
    (by rw [hfields]; exact hlen)
  have herr := specFinal_errors_nil hS fields hlen lineNo .strict hall
  rw [hfields, modeOrSilent, herr] at hspec
  exact ⟨_, hspec, herr⟩

/-! ### the rendering of a valid column -/

theorem ColSpec.render_erase (E : Enums) (sp : ColSpec) (v : PyVal) :
    sp.erase.render E v = sp.render E v := by
  simp [ColSpec.render, ColSpec.erase]

theorem ColSpec.valueInvalid_erase (sp : ColSpec) (v : PyVal) :
    sp.erase.valueInvalid v = sp.valueInvalid v := by
  simp [ColSpec.valueInvalid, ColSpec.erase, ColSpec.isNullValue, ColSpec.nullValues,
    ColSpec.elemInvalid]

/-- the class `cls` of the table is one of the column types `Builtin.expectedOf` describes -/
def ClassTyped (C : Ctx) (cls : String) : Prop :=
  ∃ ty, (resolveSpec C.tbl cls).map ColSpec.erase = Builtin.expectedOf ty

theorem Column.render_accepted {C : Ctx} (hE : Render.EnumsOK C.enums) {col : Column} {sp : ColSpec}
    (hsp : resolveSpec C.tbl col.cls = some sp) (hty : ClassTyped C col.cls)
    (hv : col.valueInvalid C = false) (hwf : RenderValid.ValueWF C col.value) :
    ∃ t, col.render C = .ok t ∧ (sp.accept C false t).isSome = true := by
  obtain ⟨ty, hty⟩ := hty
  rw [hsp] at hty
  simp only [Column.valueInvalid, hsp, ← ColSpec.valueInvalid_erase sp] at hv
  obtain ⟨t, hr, ha⟩ := RenderValid.valid_render_accepted C hE ty sp.erase hty.symm col.value hv hwf
  rw [ColSpec.render_erase, Builtin.accept_erase] at *
  exact ⟨t, by simpa only [Column.render, hsp] using hr, ha⟩

theorem Column.accepted_of_render {C : Ctx} (hE : Render.EnumsOK C.enums) {col : Column}
    {sp : ColSpec} (hsp : resolveSpec C.tbl col.cls = some sp) (hty : ClassTyped C col.cls)
    (hv : col.valueInvalid C = false) (hwf : RenderValid.ValueWF C col.value) {f : Text}
    (hren : col.render C = .ok f) : (sp.accept C false f).isSome = true := by
  obtain ⟨t, ht, hacc⟩ := Column.render_accepted hE hsp hty hv hwf
  rw [hren] at ht
  cases ht
  exact hacc

theorem Record.render_total {C : Ctx} {r : Record}
    (h : ∀ c, some c ∈ r.slots → ∃ t, c.col.render C = .ok t) : ∃ t, r.render C = .ok t := by
  refine map_mapM_ok_of_forall _ _ _ fun o ho => ?_
  cases o with
  | none => exact ⟨_, rfl⟩
  | some c => exact h c ho

theorem Record.render_ok_of_validated {C : Ctx} {r : Record} {S : Scheme} (hS : S.truthy = true)
    (hE : Render.EnumsOK C.enums)
    (htyped : ∀ c, some c ∈ r.slots → ClassTyped C c.col.cls)
    (hwf : ∀ c, some c ∈ r.slots → RenderValid.ValueWF C c.col.value)
    {logs : List LogRec} (h : (r.validate C (some .strict) true (some S)).2 = .ok logs) :
    ∃ t, r.render C = .ok t := by
  obtain ⟨_, _, hlen, _, hcols⟩ := Record.validate_strict_ok hS h
  refine Record.render_total fun c hc => ?_
  obtain ⟨i, hi⟩ := List.getElem?_of_mem hc
  obtain ⟨c', hc', hvalid⟩ := hcols i (by have := (List.getElem?_eq_some_iff.1 hi).1; omega)
  rw [hi] at hc'
  cases hc'
  -- a column that passes the value check has a class the table resolves
  cases hsp : resolveSpec C.tbl c.col.cls with
  | none => have := hvalid.valid; simp [Column.valueInvalid, hsp] at this
  | some sp =>
    exact (Column.render_accepted hE hsp (htyped c hc) hvalid.valid (hwf c hc)).imp fun _ h => h.1

theorem exceptTextEq_ok {a : Except PyErr Text} {f : Text}
    (h : exceptTextEq a (.ok f) = true) : a = .ok f := by
  cases a with
  | error e => simp [exceptTextEq] at h
  | ok t => simp only [exceptTextEq, beq_iff_eq] at h; rw [h]

/-- The three cases of `TwinOK`: directly when the column is of the scheme's class, through its
    twin when it is of a proper subclass, trivially when the scheme's class is the unrestricted
    `MafColumnRecord`. -/
theorem ColValidAt.render_accepted {C : Ctx} {S : Scheme} (hSok : SchemeOKGen C S)
    (hE : Render.EnumsOK C.enums)
    (htyped : ∀ p ∈ S.cols, p.2 ≠ "MafColumnRecord" → ClassTyped C p.2)
    {i : Nat} {c : Column} (hvalid : ColValidAt C S i c) (hwf : RenderValid.ValueWF C c.value)
    {n cls : String} {sp : ColSpec} {f : Text}
    (hp : S.cols[i]? = some (n, cls)) (hsp : resolveSpec C.tbl cls = some sp)
    (hren : c.render C = .ok f) :
    (sp.accept C (plainOk cls) f).isSome = true := by
  obtain ⟨sp', hsp', _, hcase⟩ := hSok.cls_ok _ (List.mem_of_getElem? hp)
  simp only at hsp' hcase
  rw [hsp] at hsp'; cases hsp'
  rcases hcase with ⟨hne, _⟩ | ⟨hcls, hb, _⟩
  · have hpl : plainOk cls = false := by simp [plainOk, hne]
    have hty : ClassTyped C cls := htyped (n, cls) (List.mem_of_getElem? hp) hne
    rw [hpl]
    rcases hvalid.twin n cls hp with heq | heq | ⟨htv, htr⟩
    · subst heq
      exact Column.accepted_of_render hE hsp hty hvalid.valid hwf hren
    · exact absurd heq hne
    · exact Column.accepted_of_render hE (col := { c with cls := cls }) hsp hty htv hwf
        (exceptTextEq_ok (hren ▸ htr))
  · have hpl : plainOk cls = true := by simp [plainOk, hcls]
    rw [hpl]
    simp [ColSpec.accept, ColSpec.buildValue, hb]

/-! ### the line of a validated record -/

/-- C06 for records whose columns are exactly of the scheme's classes (`hexact`);
    `Record.line_accepted_gen` allows subclasses. -/
theorem Record.line_accepted {C : Ctx} {r : Record} {S : Scheme} (hSok : SchemeOK C S)
    (hE : Render.EnumsOK C.enums) (htyped : ∀ p ∈ S.cols, ClassTyped C p.2)
    (hexact : ∀ (i : Nat) (c : RCol) (p : String × String),
      r.slots[i]? = some (some c) → S.cols[i]? = some p → c.col.cls = p.2)
    (hwf : ∀ c, some c ∈ r.slots → RenderValid.ValueWF C c.col.value)
    {logs : List LogRec} (hv : (r.validate C (some .strict) true (some S)).2 = .ok logs)
    {t : Text} (ht : r.render C = .ok t) (lineNo : Option Nat) :
    StrictAccepts C S lineNo (t ++ ['\n']) ∧ StrictAccepts C S lineNo t := by
  obtain ⟨fields, rfl, hflen, hclean, hcols⟩ := Record.render_of_validated hSok.truthy hv ht
  refine with_and_without_lf <| fromLine_strict_accepts hSok fields hflen hclean ?_ lineNo
  intro i n cls sp f hp hsp hf
  obtain ⟨c, f', hc, hf', hvalid, hren⟩ := hcols i (List.getElem?_eq_some_iff.1 hp).1
  rw [hf] at hf'; cases hf'
  have hty : ClassTyped C cls := htyped (n, cls) (List.mem_of_getElem? hp)
  have hcls : c.col.cls = cls := hexact i c (n, cls) hc hp
  rw [← hcls] at hsp hty
  exact Column.accepted_of_render hE hsp hty hvalid.valid (hwf c (List.mem_of_getElem? hc)) hren

/-- C06, one record: `str(record)` of a record that passed Strict validation against `S` and
    carries well-formed values is read back by `from_line` in Strict mode without any error.  The
    columns of the record may be of any subclass of the scheme's classes; the scheme's classes are
    column types `Builtin.expectedOf` describes, or the unrestricted `MafColumnRecord`. -/
theorem Record.line_accepted_gen {C : Ctx} {r : Record} {S : Scheme} (hSok : SchemeOKGen C S)
    (hE : Render.EnumsOK C.enums)
    (htyped : ∀ p ∈ S.cols, p.2 ≠ "MafColumnRecord" → ClassTyped C p.2)
    (hwf : ∀ c, some c ∈ r.slots → RenderValid.ValueWF C c.col.value)
    {logs : List LogRec} (hv : (r.validate C (some .strict) true (some S)).2 = .ok logs)
    {t : Text} (ht : r.render C = .ok t) (lineNo : Option Nat) :
    StrictAccepts C S lineNo (t ++ ['\n']) ∧ StrictAccepts C S lineNo t := by
  obtain ⟨fields, rfl, hflen, hclean, hcols⟩ := Record.render_of_validated hSok.truthy hv ht
  refine with_and_without_lf fun term hterm =>
    (fromLine_strict_accepts_gen hSok fields hflen
      (fun f hf => hasFieldSep_eq_false.1 (hclean f hf)) ?_ lineNo term hterm).imp
        fun _ h => ⟨h.1, h.2.1⟩
  intro i n cls sp f hp hsp hf
  obtain ⟨c, f', hc, hf', hvalid, hren⟩ := hcols i (List.getElem?_eq_some_iff.1 hp).1
  rw [hf] at hf'; cases hf'
  exact hvalid.render_accepted hSok hE htyped (hwf c (List.mem_of_getElem? hc)) hp hsp hren

theorem forall₂_mem_right {α β} {R : α → β → Prop} {as : List α} {bs : List β}
    (h : List.Forall₂ R as bs) {b : β} (hb : b ∈ bs) : ∃ a ∈ as, R a b := by
  induction h with
  | nil => cases hb
  | cons hab _ ih =>
    rcases List.mem_cons.1 hb with rfl | hb
    · exact ⟨_, by simp, hab⟩
    · obtain ⟨a, ha, hr⟩ := ih hb
      exact ⟨a, by simp [ha], hr⟩

/-! ### `close`: what a sorting writer emits -/

/-- `closeLt`, `keyedOf`, `codecNamesOf`: the local definitions of `Writer.close`, named -/
def closeLt (a b : Key × Record) : Bool :=
  match keyLt a.1 b.1 with | .ok true => true | _ => false

def keyedOf (K : HConsts) (w : Writer) : List (Key × Record) :=
  w.queued.filterMap (fun r => match w.keyOf K r with | .ok k => some (k, r) | .error _ => none)

/-- the column names the sorter's codec uses: the keys of the first queued record -/
def codecNamesOf (w : Writer) : Option (List Text) :=
  w.queued.head?.map (fun r =>
    r.keys.map (fun k => match k with | some t => t | none => "\x00<None>".toList))

theorem Writer.close_of_sorting (C : Ctx) (K : HConsts) {w : Writer} (hsort : w.sorting = true) :
    w.close C K =
      Writer.close.drain C (codecNamesOf w) w (sortAll closeLt 10000 true (keyedOf K w)) := by
  unfold Writer.close
  simp only [hsort, Bool.not_true, Bool.false_eq_true, if_false]
  rfl

/-- `l` is the line emitted for the queued record `r`: `r` goes through the sorter's codec
    (`MafSorterCodec`: `str(record)`, then `from_line` in Strict mode) and the record read is
    rendered -/
def EmittedFor (C : Ctx) (scheme : Option Scheme) (names : Option (List Text)) (r : Record)
    (l : Text) : Prop :=
  ∃ t r' logs t', r.render C = .ok t ∧
    Record.fromLine C t names scheme none (some .strict) = .ok (r', logs) ∧
    r'.render C = .ok t' ∧ l = t' ++ ['\n']

theorem Writer.recode_eq_ok {C : Ctx} {w : Writer} {names : Option (List Text)} {r r' : Record} :
    w.recode C names r = .ok r' ↔ ∃ t logs, r.render C = .ok t ∧
      Record.fromLine C t names w.scheme none (some .strict) = .ok (r', logs) := by
  unfold Writer.recode
  cases r.render C with
  | error e => simp
  | ok t =>
    cases hf : Record.fromLine C t names w.scheme none (some .strict) with
    | error e => simp [hf]
    | ok p => simp [hf, Prod.ext_iff]

theorem Writer.drain_spec (C : Ctx) (names : Option (List Text)) :
    ∀ (items : List (Key × Record)) (w : Writer),
      ∃ lines : List Text, (Writer.close.drain C names w items).1.out = w.out ++ lines ∧
        List.Forall₂ (fun (kr : Key × Record) l => EmittedFor C w.scheme names kr.2 l)
          (items.take lines.length) lines ∧
        ((Writer.close.drain C names w items).2 = .ok () → lines.length = items.length) := by
  intro items
  induction items with
  | nil => intro w; exact ⟨[], by simp [Writer.close.drain], by simp, fun _ => rfl⟩
  | cons kr rest ih =>
    intro w
    obtain ⟨k, r⟩ := kr
    unfold Writer.close.drain
    cases hrec : w.recode C names r with
    | error e => exact ⟨[], by simp, by simp, nofun⟩
    | ok r' =>
      obtain ⟨t, logs, hr, hf⟩ := Writer.recode_eq_ok.1 hrec
      simp only
      cases hr' : r'.render C with
      | error e => exact ⟨[], by simp, by simp, nofun⟩
      | ok t' =>
        obtain ⟨lines, h1, h3, h4⟩ := ih { w with out := w.out ++ [t' ++ ['\n']] }
        exact ⟨(t' ++ ['\n']) :: lines, by simp [h1],
          .cons ⟨t, r', logs, t', hr, hf, hr', rfl⟩ h3, fun hok => by simp [h4 hok]⟩

/-- A sorting writer emits, for a permutation `items` of the queued records that could be keyed,
    the lines of a prefix of `items`: of all of them when `close` succeeds. -/
theorem Writer.close_spec (C : Ctx) (K : HConsts) (w : Writer) :
    (w.sorting = false → w.close C K = (w, .ok ())) ∧
    (w.sorting = true →
      ∃ (items : List (Key × Record)) (lines : List Text),
        (w.close C K).1.out = w.out ++ lines ∧
        items.Perm (keyedOf K w) ∧
        List.Forall₂ (fun (kr : Key × Record) l => EmittedFor C w.scheme (codecNamesOf w) kr.2 l)
          (items.take lines.length) lines ∧
        ((w.close C K).2 = .ok () → lines.length = items.length)) := by
  refine ⟨fun hs => by simp [Writer.close, hs], fun hs => ?_⟩
  rw [Writer.close_of_sorting C K hs]
  obtain ⟨lines, h1, h3, h4⟩ :=
    Writer.drain_spec C (codecNamesOf w) (sortAll closeLt 10000 true (keyedOf K w)) w
  refine ⟨_, lines, h1, ?_, h3, h4⟩
  rw [SorterLemmas.sortAll_eq]
  exact (SorterLemmas.iter_perm _ _).trans (SorterLemmas.inv_run _ (by decide) _ _).content

end Model
