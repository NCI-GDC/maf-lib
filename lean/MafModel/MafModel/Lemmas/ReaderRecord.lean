/-
  Facts about `processErrors`, `Record.validate` and `Record.fromLine` used by the reader
  properties (C16, C17, C03, C19): the stringency only decides what is reported, the line
  numbers carried by record errors, and the absence of non-format exceptions.
-/
import MafModel.Model.Reader
open Py
namespace Model

/-! ### `processErrors` -/

/-- the warnings `process_validation_errors` emits: one per error in Lenient mode, none otherwise -/
def errLogs (m : Mode) (es : List VErr) : List LogRec :=
  match m with
  | .lenient => es.map (fun e => { tpe := e.tpe, line := e.line })
  | _ => []

@[simp] theorem errLogs_nil (m : Mode) : errLogs m [] = [] := by cases m <;> rfl
@[simp] theorem errLogs_silent (es : List VErr) : errLogs .silent es = [] := rfl
@[simp] theorem errLogs_strict (es : List VErr) : errLogs .strict es = [] := rfl
theorem errLogs_lenient (es : List VErr) :
    errLogs .lenient es = es.map (fun e => { tpe := e.tpe, line := e.line }) := rfl
theorem errLogs_append (m : Mode) (a b : List VErr) : errLogs m (a ++ b) = errLogs m a ++ errLogs m b := by
  cases m <;> simp [errLogs]
theorem errLogs_map_origin (m : Mode) (es : List VErr) (o : Option Nat) :
    errLogs m (es.map (fun e => { e with origin := o })) = errLogs m es := by
  cases m <;> simp [errLogs]

@[simp] theorem processErrors_nil (m : Mode) : processErrors m [] = .ok [] := by cases m <;> rfl
@[simp] theorem processErrors_silent (es : List VErr) : processErrors .silent es = .ok [] := by
  cases es <;> rfl
theorem processErrors_lenient (es : List VErr) :
    processErrors .lenient es = .ok (errLogs .lenient es) := by cases es <;> rfl
theorem processErrors_strict_cons (e : VErr) (es : List VErr) :
    processErrors .strict (e :: es) = .error (.format e.tpe e.line) := rfl

theorem processErrors_eq (m : Mode) (es : List VErr) :
    processErrors m es =
      match m, es with
      | .strict, e :: _ => .error (.format e.tpe e.line)
      | m, es => .ok (errLogs m es) := by
  cases m <;> cases es <;> rfl

theorem processErrors_nonstrict {m : Mode} (h : m ≠ .strict) (es : List VErr) :
    processErrors m es = .ok (errLogs m es) := by
  cases m
  · exact absurd rfl h
  · exact processErrors_lenient es
  · simp

theorem processErrors_error {m : Mode} {es : List VErr} {e : PyErr} (h : processErrors m es = .error e) :
    m = .strict ∧ ∃ x xs, es = x :: xs ∧ e = .format x.tpe x.line := by
  cases m <;> cases es <;> simp [processErrors] at h
  exact ⟨rfl, _, _, rfl, h.symm⟩

theorem modeOrSilent_eq_strict {mode : Option Mode} : modeOrSilent mode = .strict ↔ mode = some .strict := by
  cases mode <;> simp [modeOrSilent]

theorem processErrors_ok_iff {m : Mode} {es : List VErr} {lg : List LogRec} :
    processErrors m es = .ok lg ↔ (m = .strict → es = []) ∧ lg = errLogs m es := by
  cases m <;> cases es <;> simp [processErrors, errLogs, eq_comm]

theorem processErrors_strict_ok {es : List VErr} {lg : List LogRec} (h : processErrors .strict es = .ok lg) :
    es = [] ∧ lg = [] := by
  obtain ⟨h1, h2⟩ := processErrors_ok_iff.1 h
  exact ⟨h1 rfl, h2⟩

/-! ### the stringency field of a record -/

def Record.withMode (r : Record) (m : Mode) : Record := { r with mode := m }

@[simp] theorem Record.withMode_dict (r : Record) (m : Mode) : (r.withMode m).dict = r.dict := rfl
@[simp] theorem Record.withMode_slots (r : Record) (m : Mode) : (r.withMode m).slots = r.slots := rfl
@[simp] theorem Record.withMode_errors (r : Record) (m : Mode) : (r.withMode m).errors = r.errors := rfl
@[simp] theorem Record.withMode_line (r : Record) (m : Mode) : (r.withMode m).line = r.line := rfl
@[simp] theorem Record.withMode_mode (r : Record) (m : Mode) : (r.withMode m).mode = m := rfl
@[simp] theorem Record.withMode_withMode (r : Record) (m m' : Mode) :
    (r.withMode m).withMode m' = r.withMode m' := rfl
theorem Record.withMode_self (r : Record) : r.withMode r.mode = r := rfl

/-! ### `record[key] = column` -/

/-- not a `MafFormatException` -/
def _root_.Py.PyErr.notFormat : PyErr → Prop
  | .format _ _ => False
  | _ => True

/-- `record[key] = column` reads and writes only the dict and the slots -/
theorem setItem_frame (r : Record) (k : RKey) (x : RCol) (es : List VErr) (ln : Option Nat) (m : Mode) :
    ({ r with errors := es, line := ln, mode := m } : Record).setItem k x =
      ({ (r.setItem k x).1 with errors := es, line := ln, mode := m }, (r.setItem k x).2) := by
  unfold Record.setItem
  simp only []
  repeat (first | rfl | split)

theorem setItem_errors_line (r : Record) (k : RKey) (x : RCol) :
    (r.setItem k x).1.errors = r.errors ∧ (r.setItem k x).1.line = r.line ∧ (r.setItem k x).1.mode = r.mode :=
  have h := setItem_frame { dict := r.dict, slots := r.slots } k x r.errors r.line r.mode
  ⟨congrArg (·.1.errors) h, congrArg (·.1.line) h, congrArg (·.1.mode) h⟩

theorem setItem_withMode (r : Record) (m : Mode) (k : RKey) (x : RCol) :
    (r.withMode m).setItem k x = ((r.setItem k x).1.withMode m, (r.setItem k x).2) := by
  obtain ⟨he, hl, _⟩ := setItem_errors_line r k x
  rw [Record.withMode, Record.withMode, he, hl]
  exact setItem_frame r k x r.errors r.line m

/-- the last stage of `record[key] = column`, with the column `y` to store settled: enter it in
    the dict under its name, pad the slots up to its index, assign its slot -/
def Record.store (r : Record) (y : RCol) : Record × Except PyErr Unit :=
  let r1 := { r with dict := tdictSet r.dict y.col.key y }
  match y.col.index with
  | none => (r1, .error .assertion)
  | some ci =>
    let slots1 := if (r.slots.length : Int) ≤ ci
                  then r.slots ++ List.replicate (ci - r.slots.length + 1).toNat none
                  else r.slots
    match listSetPy slots1 ci y with
    | .ok s => ({ r1 with slots := s }, .ok ())
    | .error e => ({ r1 with slots := slots1 }, .error e)

/-- **the two stages of `record[key] = x`**.  The first reconciles key, column and record: it
    refuses, leaving the record as it is and with a literal `KeyError`, `ValueError` or `TypeError`,
    or it settles the column to store, which is `x` itself when `x` has an index (else `x` with an
    index filled in).  The second is `Record.store`. -/
theorem setItem_stages (r : Record) (key : RKey) (x : RCol) :
    (∃ e, e.notFormat ∧ r.setItem key x = (r, .error e)) ∨
    ∃ y, (∀ ci, x.col.index = some ci → y = x) ∧ r.setItem key x = r.store y := by
  unfold Record.setItem
  dsimp only
  split
  · next e h1 =>
    refine .inl ⟨e, ?_, rfl⟩
    (repeat' split at h1) <;> cases h1 <;> trivial
  next x1 h1 =>
  split
  · next e h3 =>
    refine .inl ⟨e, ?_, rfl⟩
    split at h3
    · next h2 => cases h3; (repeat' split at h2) <;> cases h2 <;> trivial
    · (repeat' split at h3) <;> cases h3 <;> trivial
  next y h3 =>
  -- step 3 only checks; steps 1 and 2 keep the name, and the index if there is one
  split at h3
  · cases h3
  next x2 h2 =>
  obtain rfl : x2 = y := by (repeat' split at h3) <;> cases h3 <;> rfl
  have k1 : x1.col.key = x.col.key := by (repeat' split at h1) <;> cases h1 <;> rfl
  have k2 : x2.col.key = x1.col.key := by (repeat' split at h2) <;> cases h2 <;> rfl
  refine .inr ⟨x2, fun ci hi => ?_, by unfold Record.store; rw [k2]; rfl⟩
  simp only [hi] at h1
  obtain rfl : x1 = x := by (repeat' split at h1) <;> cases h1 <;> rfl
  simp only [hi] at h2
  (repeat' split at h2) <;> cases h2 <;> rfl

theorem listSetPy_error {l : List (Option RCol)} {i : Int} {x : RCol} {e : PyErr}
    (h : listSetPy l i x = .error e) : e = .index := by
  unfold listSetPy at h
  (repeat' first | split at h | dsimp only at h) <;> cases h <;> rfl

theorem listSetPy_mem {l s : List (Option RCol)} {i : Int} {x : RCol} (h : listSetPy l i x = .ok s) :
    ∀ a ∈ s, a ∈ l ∨ a = some x := by
  unfold listSetPy at h
  intro a ha
  repeat' first | split at h | simp only [] at h
  all_goals cases h
  all_goals exact List.mem_or_eq_of_mem_set ha

/-- `store` fails with `AssertionError` (no index) or the `IndexError` of the list assignment -/
theorem store_error_notFormat {r : Record} {y : RCol} {e : PyErr} (h : (r.store y).2 = .error e) :
    e.notFormat := by
  unfold Record.store at h
  dsimp only at h
  split at h
  · cases h; trivial
  · split at h
    · cases h
    · next h4 => cases h; cases listSetPy_error h4; trivial

theorem store_ok_slots {r r2 : Record} {y : RCol} (h : r.store y = (r2, .ok ())) :
    ∀ s ∈ r2.slots, s ∈ r.slots ∨ s = none ∨ s = some y := by
  unfold Record.store at h
  dsimp only at h
  split at h
  · cases h
  · split at h
    · next s hs =>
      cases h
      intro a ha
      rcases listSetPy_mem hs a ha with ha | ha
      · split at ha
        · rcases List.mem_append.1 ha with ha | ha
          · exact .inl ha
          · exact .inr (.inl (List.eq_of_mem_replicate ha))
        · exact .inl ha
      · exact .inr (.inr ha)
    · cases h

theorem setItem_error_notFormat (r : Record) (k : RKey) (x : RCol) {e : PyErr}
    (h : (r.setItem k x).2 = .error e) : e.notFormat := by
  obtain ⟨e', he', hs⟩ | ⟨y, _, hs⟩ := setItem_stages r k x <;> rw [hs] at h
  · cases h; exact he'
  · exact store_error_notFormat h

theorem setItem_ok_slots {r r2 : Record} {k : RKey} {x : RCol} {ci : Int} (hi : x.col.index = some ci)
    (h : r.setItem k x = (r2, .ok ())) : ∀ s ∈ r2.slots, s ∈ r.slots ∨ s = none ∨ s = some x := by
  obtain ⟨e', _, hs⟩ | ⟨y, hy, hs⟩ := setItem_stages r k x <;> rw [hs] at h
  · cases h
  · cases hy ci hi; exact store_ok_slots h

/-! ### `Record.validate` -/

/-- the error list `validate` leaves on the record: the errors kept, the column count, the
    per-slot errors, and (when no slot is empty) the self-consistency errors -/
def Record.validateErrors (C : Ctx) (r : Record) (reset : Bool) (scheme : Option Scheme) : List VErr :=
  (if reset then [] else r.errors)
    ++ (match scheme.filter Scheme.truthy with
        | some s => if s.size ≠ r.slots.length then [{ tpe := "RECORD_MISMATCH_NUMBER_OF_COLUMNS", line := none }] else []
        | none => [])
    ++ r.slots.flatMap (fun s => match s with
        | none => [{ tpe := "RECORD_COLUMN_WITH_NO_VALUE", line := r.line }]
        | some c => r.columnErrors C scheme c)
    ++ (if r.slots.any (·.isNone) then [] else r.syncErrors)

/-- `validate` = a stringency-independent record, then `processErrors` (`validate` itself never
    raises) -/
theorem validate_eq (C : Ctx) (r : Record) (mode : Option Mode) (reset : Bool) (scheme : Option Scheme) :
    r.validate C mode reset scheme =
      ({ r with errors := r.validateErrors C reset scheme },
        processErrors (mode.getD r.mode) (r.validateErrors C reset scheme)) := rfl

@[simp] theorem Record.validateErrors_withMode (C : Ctx) (r : Record) (m : Mode) (reset : Bool)
    (scheme : Option Scheme) : (r.withMode m).validateErrors C reset scheme = r.validateErrors C reset scheme := rfl

/-! ### `Record.fromLine`, taken apart -/

/-- the column `from_line` builds for one field (`.error ()`: the value cannot be built) -/
def buildField (C : Ctx) (scheme : Option Scheme) (name value : Text) (i : Nat) : Except Unit Column :=
  match (scheme.filter Scheme.truthy).bind (fun s => s.columnClass (String.ofList name)) with
  | none => .ok { cls := "MafColumnRecord", key := name, value := .atom (.str value), index := some (i : Int) }
  | some cls =>
    match buildColumn C cls name value (some (i : Int)) with
    | .ok c => .ok c
    | .error _ => .error ()

/-- one field of `from_line` -/
def fieldStep (C : Ctx) (scheme : Option Scheme) (lineNo : Option Nat) (r : Record) (i : Nat)
    (name value : Text) : Except PyErr (Record × Nat) :=
  match buildField C scheme name value i with
  | .error () =>
    .ok ({ r with errors := r.errors ++ [{ tpe := "RECORD_INVALID_COLUMN_VALUE", line := lineNo, origin := lineNo }] }, i + 1)
  | .ok col =>
    let errs := (col.validate C scheme lineNo).map (fun e => { e with origin := lineNo })
    let r1 := { r with errors := r.errors ++ errs }
    if errs.isEmpty then
      match r1.setItem (.name name) { oid := i, col := col } with
      | (r2, .ok ()) => .ok (r2, i + 1)
      | (_, .error e) => .error e
    else .ok (r1, i + 1)

def fromLineStep (C : Ctx) (scheme : Option Scheme) (lineNo : Option Nat)
    (acc : Except PyErr (Record × Nat)) (nv : Text × Text) : Except PyErr (Record × Nat) :=
  match acc with
  | .error e => .error e
  | .ok (r, i) => fieldStep C scheme lineNo r i nv.1 nv.2

/-- the closing `validate` of `from_line` -/
def finishLine (C : Ctx) (r : Record) : Except PyErr (Record × List LogRec) :=
  match r.validate C none false none with
  | (r2, .ok logs) => .ok (r2, logs)
  | (_, .error e) => .error e

/-- `column_names`, else the names of the scheme; with neither, `from_line` raises `ValueError` -/
def lineNames (columnNames : Option (List Text)) (scheme : Option Scheme) : Option (List Text) :=
  match columnNames with
  | some ns => some ns
  | none => scheme.map (fun s => s.names.map String.toList)

theorem fromLine_eq (C : Ctx) (line : Text) (columnNames : Option (List Text))
    (scheme : Option Scheme) (lineNo : Option Nat) (mode : Option Mode) :
    Record.fromLine C line columnNames scheme lineNo mode =
      match lineNames columnNames scheme with
      | none => .error .value
      | some names =>
        let values := splitOn '\t' (rstripCRLF line)
        let r0 : Record := { line := lineNo, mode := modeOrSilent mode }
        if names.length ≠ values.length then
          finishLine C { r0 with errors := [{ tpe := "RECORD_MISMATCH_NUMBER_OF_COLUMNS", line := lineNo, origin := lineNo }] }
        else
          match (names.zip values).foldl (fromLineStep C scheme lineNo) (.ok (r0, 0)) with
          | .error e => .error e
          | .ok (r, _) => finishLine C r := by
  unfold Record.fromLine lineNames
  rfl

/-! ### the stringency does not influence parsing -/

theorem fieldStep_withMode (C : Ctx) (scheme : Option Scheme) (lineNo : Option Nat) (r : Record) (m : Mode)
    (i : Nat) (name value : Text) :
    fieldStep C scheme lineNo (r.withMode m) i name value =
      (fieldStep C scheme lineNo r i name value).map (fun p => (p.1.withMode m, p.2)) := by
  unfold fieldStep
  cases buildField C scheme name value i with
  | error u => rfl
  | ok col =>
    simp only []
    generalize (col.validate C scheme lineNo).map _ = errs
    cases errs.isEmpty with
    | false => rfl
    | true =>
      show (match Record.setItem (Record.withMode { r with errors := r.errors ++ errs } m) _ _ with
        | (r2, .ok ()) => _ | (_, .error e) => _) = _
      rw [setItem_withMode]
      rcases Record.setItem { r with errors := r.errors ++ errs } (.name name) { oid := i, col := col } with
        ⟨r2, _ | _⟩ <;> rfl

theorem foldl_fromLineStep_withMode (C : Ctx) (scheme : Option Scheme) (lineNo : Option Nat) (m : Mode)
    (nvs : List (Text × Text)) (acc : Except PyErr (Record × Nat)) :
    nvs.foldl (fromLineStep C scheme lineNo) (acc.map (fun p => (p.1.withMode m, p.2))) =
      (nvs.foldl (fromLineStep C scheme lineNo) acc).map (fun p => (p.1.withMode m, p.2)) := by
  induction nvs generalizing acc with
  | nil => rfl
  | cons nv nvs ih =>
    rw [List.foldl_cons, List.foldl_cons, ← ih]
    cases acc with
    | error e => rfl
    | ok p => exact congrArg (List.foldl _ · nvs) (fieldStep_withMode C scheme lineNo p.1 m p.2 nv.1 nv.2)

theorem finishLine_eq (C : Ctx) (r : Record) :
    finishLine C r =
      match processErrors r.mode (r.validateErrors C false none) with
      | .error e => .error e
      | .ok lg => .ok ({ r with errors := r.validateErrors C false none }, lg) := by
  unfold finishLine
  rw [validate_eq]
  simp only [Option.getD_none]
  cases processErrors r.mode (r.validateErrors C false none) <;> rfl

/-- the record `from_line` has built before its closing `validate` (stringency field: Silent) -/
def preRecord (C : Ctx) (line : Text) (columnNames : Option (List Text)) (scheme : Option Scheme)
    (lineNo : Option Nat) : Except PyErr Record :=
  match lineNames columnNames scheme with
  | none => .error .value
  | some names =>
    let values := splitOn '\t' (rstripCRLF line)
    let r0 : Record := { line := lineNo, mode := .silent }
    if names.length ≠ values.length then
      .ok { r0 with errors := [{ tpe := "RECORD_MISMATCH_NUMBER_OF_COLUMNS", line := lineNo, origin := lineNo }] }
    else
      match (names.zip values).foldl (fromLineStep C scheme lineNo) (.ok (r0, 0)) with
      | .error e => .error e
      | .ok (r, _) => .ok r

/-- what parsing a line gives, whatever the stringency: the record with all its collected errors
    (stringency field: Silent), or the non-format exception that aborts `from_line` -/
def parsedLine (C : Ctx) (line : Text) (columnNames : Option (List Text)) (scheme : Option Scheme)
    (lineNo : Option Nat) : Except PyErr Record :=
  match preRecord C line columnNames scheme lineNo with
  | .error e => .error e
  | .ok r => .ok { r with errors := r.validateErrors C false none }

/-- `parsedLine` as an equation to rewrite with: the field loop, then the error collection of
    `validate` (which has no assertion that could fail) — the form the examples evaluate -/
theorem parsedLine_eq (C : Ctx) (line : Text) (cn : Option (List Text)) (sch : Option Scheme)
    (ln : Option Nat) :
    parsedLine C line cn sch ln =
      match preRecord C line cn sch ln with
      | .error e => .error e
      | .ok r => .ok { r with errors := r.validateErrors C false none } := rfl

theorem fromLine_pre (C : Ctx) (line : Text) (columnNames : Option (List Text))
    (scheme : Option Scheme) (lineNo : Option Nat) (mode : Option Mode) :
    Record.fromLine C line columnNames scheme lineNo mode =
      match preRecord C line columnNames scheme lineNo with
      | .error e => .error e
      | .ok r => finishLine C (r.withMode (modeOrSilent mode)) := by
  rw [fromLine_eq]
  unfold preRecord
  cases lineNames columnNames scheme with
  | none => rfl
  | some names =>
    simp only []
    by_cases hl : names.length ≠ (splitOn '\t' (rstripCRLF line)).length
    · rw [if_pos hl, if_pos hl]; rfl
    · rw [if_neg hl, if_neg hl]
      have h := foldl_fromLineStep_withMode C scheme lineNo (modeOrSilent mode)
        (names.zip (splitOn '\t' (rstripCRLF line))) (Except.ok (({ line := lineNo, mode := .silent } : Record), 0))
      change List.foldl _ (Except.ok (({ line := lineNo, mode := modeOrSilent mode } : Record), 0)) _ = _ at h
      rw [h]
      cases List.foldl (fromLineStep C scheme lineNo) (Except.ok (({ line := lineNo, mode := .silent } : Record), 0))
        (names.zip (splitOn '\t' (rstripCRLF line))) with
      | error e => rfl
      | ok p => rfl

/-- **the stringency only decides what is reported**: `from_line` under any stringency is the
    stringency-independent `parsedLine` followed by `processErrors` on the collected errors -/
theorem fromLine_spec (C : Ctx) (line : Text) (columnNames : Option (List Text))
    (scheme : Option Scheme) (lineNo : Option Nat) (mode : Option Mode) :
    Record.fromLine C line columnNames scheme lineNo mode =
      match parsedLine C line columnNames scheme lineNo with
      | .error e => .error e
      | .ok rec =>
        match processErrors (modeOrSilent mode) rec.errors with
        | .error e => .error e
        | .ok lg => .ok (rec.withMode (modeOrSilent mode), lg) := by
  rw [fromLine_pre]
  unfold parsedLine
  cases preRecord C line columnNames scheme lineNo with
  | error e => rfl
  | ok r =>
    simp only [finishLine_eq, Record.withMode_mode, Record.validateErrors_withMode]
    split <;> rfl

theorem fromLine_ok {C : Ctx} {line : Text} {cn : Option (List Text)} {sch : Option Scheme}
    {ln : Option Nat} {mode : Option Mode} {rec : Record} {lg : List LogRec}
    (h : Record.fromLine C line cn sch ln mode = .ok (rec, lg)) :
    ∃ prec, parsedLine C line cn sch ln = .ok prec ∧
      processErrors (modeOrSilent mode) prec.errors = .ok lg ∧ rec = prec.withMode (modeOrSilent mode) := by
  rw [fromLine_spec] at h
  split at h
  · cases h
  · rename_i prec hp
    split at h
    · cases h
    · rename_i lg' hpe
      cases h
      exact ⟨prec, hp, hpe, rfl⟩

theorem parsedLine_ok {C : Ctx} {line : Text} {cn : Option (List Text)} {sch : Option Scheme}
    {ln : Option Nat} {rec : Record} (h : parsedLine C line cn sch ln = .ok rec) :
    ∃ r, preRecord C line cn sch ln = .ok r ∧ rec = { r with errors := r.validateErrors C false none } := by
  unfold parsedLine at h
  split at h
  · cases h
  · cases h; exact ⟨_, ‹_›, rfl⟩

/-! ### line numbers of the errors of a column -/

theorem schemeErrors_line (C : Ctx) (col : Column) (s : Option Scheme) (ln : Option Nat) :
    ∀ e ∈ col.schemeErrors C s ln, e.line = ln ∧ e.origin = none := by
  intro e he
  unfold Column.schemeErrors at he
  -- every branch is `[]` or one error with `line := ln`
  repeat' first | split at he | simp only [] at he
  all_goals first | exact List.eq_of_mem_singleton he ▸ ⟨rfl, rfl⟩ | cases he

theorem Column.validate_line (C : Ctx) (col : Column) (s : Option Scheme) (ln : Option Nat) :
    ∀ e ∈ col.validate C s ln, e.line = ln ∧ e.origin = none := by
  intro e he
  unfold Column.validate at he
  rcases List.mem_append.1 he with h | h
  · split at h
    · exact List.eq_of_mem_singleton h ▸ ⟨rfl, rfl⟩
    · cases h
  · exact schemeErrors_line C col s ln e h

theorem Column.validate_none (C : Ctx) (col : Column) (ln : Option Nat) :
    col.validate C none ln = if col.valueInvalid C then [{ tpe := "RECORD_COLUMN_WRONG_FORMAT", line := ln }] else [] := by
  simp [Column.validate, Column.schemeErrors]

/-! ### the field loop of `from_line` -/

theorem foldl_fromLineStep_error (C : Ctx) (sch : Option Scheme) (ln : Option Nat) (e : PyErr)
    (nvs : List (Text × Text)) : nvs.foldl (fromLineStep C sch ln) (.error e) = .error e := by
  induction nvs with
  | nil => rfl
  | cons nv nvs ih => exact ih

/-- invariant reasoning over the field loop of `from_line`: `P` holds of every state the loop
    reaches, `E` of the exception that ends it -/
theorem foldl_fromLineStep_ind {C : Ctx} {sch : Option Scheme} {ln : Option Nat}
    {P : List (Text × Text) → Record → Nat → Prop} {E : PyErr → Prop}
    (hstep : ∀ nv nvs r i, P (nv :: nvs) r i →
      match fieldStep C sch ln r i nv.1 nv.2 with
      | .ok p => P nvs p.1 p.2
      | .error e => E e)
    (nvs : List (Text × Text)) (r : Record) (i : Nat) (h : P nvs r i) :
    match nvs.foldl (fromLineStep C sch ln) (.ok (r, i)) with
    | .ok p => P [] p.1 p.2
    | .error e => E e := by
  induction nvs generalizing r i with
  | nil => exact h
  | cons nv nvs ih =>
    have := hstep nv nvs r i h
    rw [List.foldl_cons]
    change match List.foldl _ (fieldStep C sch ln r i nv.1 nv.2) nvs with | .ok p => _ | .error e => _
    cases hf : fieldStep C sch ln r i nv.1 nv.2 with
    | error e => rw [foldl_fromLineStep_error]; simpa [hf] using this
    | ok q => exact ih q.1 q.2 (by simpa [hf] using this)

theorem buildColumn_key_index {C : Ctx} {cls : String} {key t : Text} {idx : Option Int} {c : Column}
    (h : buildColumn C cls key t idx = .ok c) : c.key = key ∧ c.index = idx := by
  unfold buildColumn at h
  repeat' split at h
  all_goals cases h
  all_goals exact ⟨rfl, rfl⟩

theorem buildField_key_index {C : Ctx} {sch : Option Scheme} {name value : Text} {i : Nat} {col : Column}
    (h : buildField C sch name value i = .ok col) : col.key = name ∧ col.index = some (i : Int) := by
  unfold buildField at h
  split at h
  · cases h; exact ⟨rfl, rfl⟩
  · split at h
    · cases h; exact buildColumn_key_index ‹_›
    · cases h

theorem fieldStep_ok {C : Ctx} {sch : Option Scheme} {ln : Option Nat} {r : Record} {i : Nat}
    {name value : Text} {p : Record × Nat} (h : fieldStep C sch ln r i name value = .ok p) :
    ∃ errs, (∀ e ∈ errs, e.line = ln) ∧
      (p.1 = { r with errors := r.errors ++ errs } ∨
        ∃ col, buildField C sch name value i = .ok col ∧ col.validate C sch ln = [] ∧
          ({ r with errors := r.errors ++ errs } : Record).setItem (.name name) { oid := i, col := col } =
            (p.1, .ok ())) := by
  unfold fieldStep at h
  split at h
  · cases h
    exact ⟨_, fun e he => by rw [List.eq_of_mem_singleton he], .inl rfl⟩
  · rename_i col hb
    refine ⟨(col.validate C sch ln).map (fun e => { e with origin := ln }), fun e he => ?_, ?_⟩
    · obtain ⟨e', he', rfl⟩ := List.mem_map.1 he
      exact (Column.validate_line C col sch ln e' he').1
    · simp only [] at h
      split at h
      · rename_i hE
        split at h
        · cases h
          exact .inr ⟨col, hb, by simpa using hE, ‹_›⟩
        · cases h
      · cases h; exact .inl rfl

/-! ### line numbers of record errors -/

theorem syncErrors_line (r : Record) : ∀ e ∈ r.syncErrors, e.line = r.line ∧ e.origin = none := by
  intro e he
  unfold Record.syncErrors at he
  simp only [List.mem_append, List.mem_filterMap] at he
  rcases he with he | ⟨p, _, he⟩
  · split at he
    · cases he
    · exact List.eq_of_mem_singleton he ▸ ⟨rfl, rfl⟩
  · repeat' split at he
    all_goals cases he
    exact ⟨rfl, rfl⟩

theorem mem_validateErrors_none {C : Ctx} {r : Record} {e : VErr} (he : e ∈ r.validateErrors C false none) :
    e ∈ r.errors ∨ (none ∈ r.slots ∧ e = { tpe := "RECORD_COLUMN_WITH_NO_VALUE", line := r.line }) ∨
      (∃ c, some c ∈ r.slots ∧ e ∈ c.col.validate C none none) ∨ e ∈ r.syncErrors := by
  simp only [Record.validateErrors, Bool.false_eq_true, if_false, Option.filter_none, List.append_nil,
    List.mem_append, List.mem_flatMap] at he
  rcases he with (he | ⟨s, hs, he⟩) | he
  · exact .inl he
  · cases s with
    | none => exact .inr (.inl ⟨hs, List.eq_of_mem_singleton he⟩)
    | some c => exact .inr (.inr (.inl ⟨c, hs, by simpa [Record.columnErrors] using he⟩))
  · split at he
    · cases he
    · exact .inr (.inr (.inr he))

/-- what holds of a record while `from_line` fills it: it and its errors carry the line number, and
    every stored column has passed its value check -/
structure LineOK (C : Ctx) (ln : Option Nat) (r : Record) : Prop where
  line : r.line = ln
  errs : ∀ e ∈ r.errors, e.line = ln
  valid : ∀ c, some c ∈ r.slots → c.col.valueInvalid C = false

theorem fieldStep_lineOK {C : Ctx} {sch : Option Scheme} {ln : Option Nat} {r : Record} {i : Nat}
    {name value : Text} {p : Record × Nat} (h : fieldStep C sch ln r i name value = .ok p)
    (hr : LineOK C ln r) : LineOK C ln p.1 := by
  obtain ⟨errs, he, hp | ⟨col, hb, hv, hs⟩⟩ := fieldStep_ok h
  all_goals have herrs : ∀ e ∈ r.errors ++ errs, e.line = ln :=
    fun e h => (List.mem_append.1 h).elim (hr.errs e) (he e)
  · rw [hp]; exact ⟨hr.line, herrs, hr.valid⟩
  · obtain ⟨h1, h2, _⟩ := setItem_errors_line { r with errors := r.errors ++ errs } (.name name) { oid := i, col := col }
    rw [hs] at h1 h2
    obtain ⟨hkey, hidx⟩ := buildField_key_index hb
    refine ⟨h2.trans hr.line, h1 ▸ herrs, fun c hc => ?_⟩
    rcases setItem_ok_slots (x := { oid := i, col := col }) hidx hs (some c) hc with h | h | h
    · exact hr.valid c h
    · cases h
    · cases h
      -- the column was stored because its validation found nothing
      unfold Column.validate at hv
      cases hc : col.valueInvalid C with
      | false => rfl
      | true => rw [hc] at hv; cases hv

theorem preRecord_lineOK {C : Ctx} {line : Text} {cn : Option (List Text)} {sch : Option Scheme}
    {ln : Option Nat} {r : Record} (h : preRecord C line cn sch ln = .ok r) : LineOK C ln r := by
  unfold preRecord at h
  cases hn : lineNames cn sch with
  | none => rw [hn] at h; cases h
  | some names =>
    rw [hn] at h
    simp only [] at h
    split at h
    · cases h
      exact ⟨rfl, fun e he => (by rw [List.eq_of_mem_singleton he]), fun c hc => (by cases hc)⟩
    · have := foldl_fromLineStep_ind (C := C) (sch := sch) (P := fun _ r _ => LineOK C ln r) (E := fun _ => True)
        (fun nv _ r i hP => by
          split
          · exact fieldStep_lineOK ‹_› hP
          · trivial)
        (names.zip (splitOn '\t' (rstripCRLF line))) { line := ln, mode := .silent } 0
        ⟨rfl, fun e he => (by cases he), fun c hc => (by cases hc)⟩
      split at h
      · cases h
      · rename_i hfold
        cases h
        rwa [hfold] at this

/-- **`from_line` reports the line number it was given on every error it collects** (the closing
    re-validation, which would report a bad value without one, finds none: every stored column has
    already passed its value check) -/
theorem parsedLine_lines_all {C : Ctx} {line : Text} {cn : Option (List Text)} {sch : Option Scheme}
    {ln : Option Nat} {rec : Record} (h : parsedLine C line cn sch ln = .ok rec) :
    rec.line = ln ∧ ∀ e ∈ rec.errors, e.line = ln := by
  obtain ⟨r, hpre, rfl⟩ := parsedLine_ok h
  have hr := preRecord_lineOK hpre
  refine ⟨hr.line, fun e he => ?_⟩
  rcases mem_validateErrors_none he with he | ⟨_, he⟩ | ⟨c, hs, he⟩ | he
  · exact hr.errs e he
  · rw [he]; exact hr.line
  · simp [Column.validate_none, hr.valid c hs] at he
  · exact (syncErrors_line r e he).1.trans hr.line

/-- `parsedLine_lines_all` in a form that leaves room for `RECORD_COLUMN_WRONG_FORMAT` errors without
    a line number (what the closing re-validation would report); there are none, and the second
    alternative never occurs -/
theorem parsedLine_lines {C : Ctx} {line : Text} {cn : Option (List Text)} {sch : Option Scheme}
    {ln : Option Nat} {rec : Record} (h : parsedLine C line cn sch ln = .ok rec) :
    rec.line = ln ∧
    ∀ e ∈ rec.errors, e.line = ln ∨ (e.line = none ∧ e.tpe = "RECORD_COLUMN_WRONG_FORMAT") :=
  ⟨(parsedLine_lines_all h).1, fun e he => .inl ((parsedLine_lines_all h).2 e he)⟩

/-! ### pairwise distinct column names -/

theorem tdictGet_eq_none {β} {d : List (Text × β)} {k : Text} :
    tdictGet d k = none ↔ ∀ p ∈ d, p.1 ≠ k := by
  simp [tdictGet]

theorem tdictSet_fresh {β} {d : List (Text × β)} {k : Text} (v : β) (h : tdictGet d k = none) :
    tdictSet d k v = d ++ [(k, v)] := by
  have : d.any (fun p => p.1 == k) = false := by
    simpa [tdictGet_eq_none] using h
  simp [tdictSet, this]

theorem setItem_fresh (r : Record) (name : Text) (x : RCol) (i : Nat)
    (hk : x.col.key = name) (hi : x.col.index = some (i : Int))
    (hfresh : tdictGet r.dict name = none) (hlen : r.slots.length ≤ i) :
    r.setItem (.name name) x =
      ({ r with dict := r.dict ++ [(name, x)],
                slots := (r.slots ++ List.replicate (i + 1 - r.slots.length) none).set i (some x) }, .ok ()) := by
  have hget : r.slots.getD i none = none := by
    simp [List.getD_eq_getElem?_getD, List.getElem?_eq_none hlen]
  have hlen' : (r.slots.length : Int) ≤ (i : Int) := by omega
  have htn : ((i : Int) - (r.slots.length : Int) + 1).toNat = i + 1 - r.slots.length := by omega
  have hneg : ¬ ((i : Int) < 0) := by omega
  have h0 : (0 : Int) ≤ (i : Int) := by omega
  unfold Record.setItem
  simp only [hk, ne_eq, not_true_eq_false, if_false, hfresh, hi, Int.toNat_natCast, hget, listSetPy,
    hneg, hlen', if_true, htn, h0, List.length_append, List.length_replicate, tdictSet_fresh x hfresh]
  rw [if_pos (by omega)]

theorem all_some_eq_map_filterMap {α} (l : List (Option α)) (h : l.any (·.isNone) = false) :
    l = (l.filterMap id).map some := by
  induction l with
  | nil => rfl
  | cons a l ih =>
    simp only [List.any_cons, Bool.or_eq_false_iff] at h
    cases a with
    | none => simp at h
    | some a => simp [← ih h.2]

/-- the loop invariant of `from_line` for pairwise distinct column names: the names still to come
    are new to the record, and so are their slots -/
def FreshInv (nvs : List (Text × Text)) (r : Record) (i : Nat) : Prop :=
  r.slots.length ≤ i ∧ (nvs.map Prod.fst).Nodup ∧ ∀ p ∈ r.dict, p.1 ∉ nvs.map Prod.fst

theorem fieldStep_fresh {C : Ctx} {sch : Option Scheme} {ln : Option Nat} (nv : Text × Text)
    (nvs : List (Text × Text)) (r : Record) (i : Nat) (h : FreshInv (nv :: nvs) r i) :
    ∃ p, fieldStep C sch ln r i nv.1 nv.2 = .ok p ∧ FreshInv nvs p.1 p.2 ∧
      (p.1.dict = r.dict ∨
        ∃ col, buildField C sch nv.1 nv.2 i = .ok col ∧ p.1.dict = r.dict ++ [(nv.1, { oid := i, col := col })]) := by
  obtain ⟨hlen, hnd, hfresh⟩ := h
  simp only [List.map_cons, List.nodup_cons] at hnd
  have hfresh' : ∀ p ∈ r.dict, p.1 ∉ nvs.map Prod.fst := fun p hp hm =>
    hfresh p hp (List.mem_cons_of_mem _ hm)
  have hskip : ∀ es, FreshInv nvs { r with errors := es } (i + 1) := fun _ => ⟨Nat.le_succ_of_le hlen, hnd.2, hfresh'⟩
  unfold fieldStep
  cases hb : buildField C sch nv.1 nv.2 i with
  | error u => exact ⟨_, rfl, hskip _, .inl rfl⟩
  | ok col =>
    simp only []
    generalize (col.validate C sch ln).map _ = errs
    split
    · obtain ⟨hkey, hidx⟩ := buildField_key_index hb
      have hget : tdictGet r.dict nv.1 = none :=
        tdictGet_eq_none.2 fun p hp heq => hfresh p hp (by simp [heq])
      rw [setItem_fresh { r with errors := r.errors ++ errs } nv.1 { oid := i, col := col } i hkey hidx hget hlen]
      refine ⟨_, rfl, ⟨by simp; omega, hnd.2, fun p hp => ?_⟩, .inr ⟨col, rfl, rfl⟩⟩
      rcases List.mem_append.1 hp with hp | hp
      · exact hfresh' p hp
      · rw [List.eq_of_mem_singleton hp]; exact hnd.1
    · exact ⟨_, rfl, hskip _, .inl rfl⟩

/-- **`from_line` raises nothing but format errors when the column names are pairwise distinct**:
    the stringency-independent parse succeeds, and the record stores only columns that
    `buildField` made (`Q` is any property of those) -/
theorem parsedLine_nodup_dict (C : Ctx) (line : Text) {cn : Option (List Text)} {sch : Option Scheme}
    (ln : Option Nat) {names : List Text} (hn : lineNames cn sch = some names) (hnd : names.Nodup)
    (Q : RCol → Prop)
    (hQ : ∀ name value i col, buildField C sch name value i = .ok col → Q { oid := i, col := col }) :
    ∃ rec, parsedLine C line cn sch ln = .ok rec ∧ ∀ p ∈ rec.dict, Q p.2 := by
  unfold parsedLine preRecord
  rw [hn]
  simp only []
  by_cases hl : names.length = (splitOn '\t' (rstripCRLF line)).length
  · rw [if_neg (not_not_intro hl)]
    have := foldl_fromLineStep_ind (C := C) (sch := sch) (ln := ln)
      (P := fun nvs r i => FreshInv nvs r i ∧ ∀ p ∈ r.dict, Q p.2) (E := fun _ => False)
      (fun nv nvs r i h => by
        obtain ⟨p, hp, hF, hd | ⟨col, hb, hd⟩⟩ := fieldStep_fresh (C := C) (sch := sch) (ln := ln) nv nvs r i h.1
        all_goals rw [hp]
        · exact ⟨hF, hd ▸ h.2⟩
        · refine ⟨hF, fun q hq => ?_⟩
          rcases List.mem_append.1 (hd ▸ hq) with hq | hq
          · exact h.2 q hq
          · rw [List.eq_of_mem_singleton hq]; exact hQ _ _ _ _ hb)
      (names.zip (splitOn '\t' (rstripCRLF line))) { line := ln, mode := .silent } 0
      ⟨⟨Nat.le_refl _, by rw [List.map_fst_zip (by omega)]; exact hnd, fun p hp => by cases hp⟩,
        fun p hp => by cases hp⟩
    split at this
    · rename_i p hp
      rw [hp]
      exact ⟨_, rfl, this.2⟩
    · exact this.elim
  · rw [if_pos hl]
    exact ⟨_, rfl, fun p hp => by cases hp⟩

theorem parsedLine_ok_of_nodup (C : Ctx) (line : Text) {cn : Option (List Text)} {sch : Option Scheme}
    (ln : Option Nat) {names : List Text} (hn : lineNames cn sch = some names) (hnd : names.Nodup) :
    ∃ rec, parsedLine C line cn sch ln = .ok rec := by
  obtain ⟨rec, h, _⟩ := parsedLine_nodup_dict C line ln hn hnd (fun _ => True) (fun _ _ _ _ _ => trivial)
  exact ⟨rec, h⟩

/-! ### schemes with pairwise distinct names -/

theorem dictSet_keys {β} (d : List (String × β)) (k : String) (v : β) :
    (dictSet d k v).map Prod.fst = if d.any (fun p => p.1 == k) then d.map Prod.fst else d.map Prod.fst ++ [k] := by
  unfold dictSet
  split
  · rw [List.map_map]
    apply List.map_congr_left
    intro p _
    simp only [Function.comp]
    split
    · rename_i h; simp at h; exact h.symm
    · rfl
  · simp

theorem dictSet_keys_nodup {β} (d : List (String × β)) (k : String) (v : β)
    (h : (d.map Prod.fst).Nodup) : ((dictSet d k v).map Prod.fst).Nodup := by
  rw [dictSet_keys]
  split
  · exact h
  · rename_i hany
    rw [List.nodup_append]
    refine ⟨h, by simp, ?_⟩
    intro a ha b hb
    simp only [List.mem_singleton] at hb
    subst hb
    intro hab
    subst hab
    apply hany
    obtain ⟨p, hp, rfl⟩ := List.mem_map.1 ha
    exact List.any_eq_true.2 ⟨p, hp, by simp⟩

theorem dictOfList_keys_nodup {β} (l : List (String × β)) : ((dictOfList l).map Prod.fst).Nodup := by
  unfold dictOfList
  suffices ∀ (d : List (String × β)), (d.map Prod.fst).Nodup →
      ((l.foldl (fun d p => dictSet d p.1 p.2) d).map Prod.fst).Nodup from this [] (by simp)
  induction l with
  | nil => exact fun d h => h
  | cons p l ih => exact fun d h => ih _ (dictSet_keys_nodup d p.1 p.2 h)

/-- `NoRestrictionsScheme(names)` de-duplicates its column names -/
theorem noRestrictionsScheme_names_nodup (names : List String) : (noRestrictionsScheme names).names.Nodup :=
  dictOfList_keys_nodup _

theorem lineNames_scheme (s : Scheme) : lineNames none (some s) = some (s.names.map String.toList) := rfl

theorem names_toList_nodup {s : Scheme} (h : s.names.Nodup) : (s.names.map String.toList).Nodup :=
  List.Pairwise.map (R := (· ≠ ·)) (S := (· ≠ ·)) String.toList
    (fun _ _ hab h' => hab (String.toList_inj.1 h')) h

end Model
