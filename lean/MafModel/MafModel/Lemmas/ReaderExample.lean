/-
  A tiny concrete reading context for the non-vacuity examples of C16 / C17 / C03 / C19:
  the class table knows only `MafColumnRecord`, the two registries have no scheme (so every file is
  read with `NoRestrictionsScheme(column names)`), and five small input files: a malformed header
  line and a short record, records out of order, a position that is not a number (twice), and a
  clean header with a short record.
-/
import MafModel.Lemmas.ReaderLemmas
open Py
namespace Model.ReaderExample

def exK : HConsts :=
  { versionKey := "version".toList, annotationKey := "annotation.spec".toList,
    sortOrderKey := "sort.order".toList, contigKey := "contigs".toList, startSymbol := '#',
    sortOrders := [("Unknown".toList, false, false), ("Unsorted".toList, false, false),
      ("BarcodesAndCoordinate".toList, true, true), ("Coordinate".toList, true, false)] }

def exC : Ctx :=
  { tbl := [{ name := "MafColumnRecord", bases := [], hooks := ["build", "validate", "__string_it__"] }],
    enums := [], H := ⟨fun _ => none⟩ }

def exR : Registry := { schemes := [], supportedVersions := [], supportedAnnotations := [] }

/-- line 1: a good pragma; line 2: a header line without separator; line 3: the column names;
    line 4: a good record; line 5: a record with a missing field -/
def exLines : List Text :=
  ["#version 2.4\n".toList, "#oops\n".toList, "Chromosome\tStart_Position\tEnd_Position\n".toList,
   "chr1\t10\t20\n".toList, "chr2\t5\n".toList]

/-- a file declaring `Coordinate` order with its two records out of order -/
def exSorted : List Text :=
  ["#version 2.4\n".toList, "#sort.order Coordinate\n".toList,
   "Chromosome\tStart_Position\tEnd_Position\n".toList,
   "chr1\t10\t20\n".toList, "chr1\t5\t7\n".toList]

/-- a file declaring `Coordinate` order (no contig list) whose second record has the start
    position `abc`, not a number; the records that can be keyed are in order -/
def exBadPos : List Text :=
  ["#version 2.4\n".toList, "#sort.order Coordinate\n".toList,
   "Chromosome\tStart_Position\tEnd_Position\n".toList,
   "chr1\t10\t20\n".toList, "chr1\tabc\t7\n".toList, "chr1\t30\t40\n".toList]

/-- the same with a third record that is out of order relative to the FIRST one -/
def exBadPosDesc : List Text :=
  ["#version 2.4\n".toList, "#sort.order Coordinate\n".toList,
   "Chromosome\tStart_Position\tEnd_Position\n".toList,
   "chr1\t10\t20\n".toList, "chr1\tabc\t7\n".toList, "chr1\t5\t6\n".toList]

/-- a registry that supports the version and annotation of `exClean` (still without schemes) -/
def exR2 : Registry := { schemes := [], supportedVersions := ["2.4"], supportedAnnotations := ["gdc-1.0.0"] }

/-- a file with a clean header whose second record is short -/
def exClean : List Text :=
  ["#version 2.4\n".toList, "#annotation.spec gdc-1.0.0\n".toList,
   "Chromosome\tStart_Position\tEnd_Position\n".toList,
   "chr1\t10\t20\n".toList, "chr2\t5\n".toList]

theorem exists_ok_of_map {ε α β : Type} {x : Except ε α} {f : α → β} {b : β}
    (h : x.toOption.map f = some b) : ∃ a, x = .ok a ∧ f a = b := by
  cases x with
  | error e => cases h
  | ok a => exact ⟨a, rfl, by simpa [Except.toOption] using h⟩

def errOf {α : Type} : Except PyErr α → Option PyErr
  | .error e => some e
  | .ok _ => none

theorem eq_error_of_errOf {α : Type} {x : Except PyErr α} {e : PyErr} (h : errOf x = some e) :
    x = .error e := by
  cases x with
  | error e' => simp only [errOf, Option.some.injEq] at h; rw [h]
  | ok a => cases h

end Model.ReaderExample
