/-
  Lemmas behind C06: a value that *validates* under a column type renders to a text the
  same column type accepts — for arbitrary values (not only values obtained by parsing, as
  in `Lemmas/Render.lean`), under the well-formedness condition `ValueWF`.

  `Covers` relates a `__validate__` chain, a `__string_it__` chain and a scalar reader; it is
  proved once per validator and lifted to the column once per way of treating the null
  spellings; `rv_named` says which of these each entry of `Expected.named` takes.
-/
import MafModel.Lemmas.Render
open Model Py Spec Render
open Accept (mapM_option_cons mapM_except_cons)

namespace RenderValid

/-- well-formedness of a scalar as a Python object: a `float` token is a `repr` (in the
    range of the float host and fixed by it), an enum member exists in its class, a UUID is
    a 128-bit number -/
def AtomWF (C : Ctx) : Atom → Prop
  | .float t => C.H.parse t = some t
  | .enum c m => (enumValue C.enums c m).isSome = true
  | .uuid n => n < 2 ^ 128
  | _ => True

def ValueWF (C : Ctx) : PyVal → Prop
  | .atom a => AtomWF C a
  | .list xs => ∀ a ∈ xs, AtomWF C a
  | .tuple xs => ∀ a ∈ xs, AtomWF C a

/-- `inv` is a `__validate__` chain (`true` = rejected).  Every well-formed value it lets through
    is written by the `__string_it__` chain as a text that `rd` reads. -/
def Covers (C : Ctx) (inv : PyVal → Bool) (chain : List String) (rd : Text → Option PyVal) : Prop :=
  ∀ v, inv v = false → ValueWF C v →
    ∃ r, runString C.enums chain v = .ok r ∧ (rd r).isSome = true

section Validators
variable {C : Ctx} {e : Option String} {lo hi : Option Int} {ei : Atom → Bool} {vr sr : List String}

theorem isInstanceStr_iff {v : PyVal} : isInstanceStr v = true ↔ ∃ s, v = .atom (.str s) := by
  unfold isInstanceStr; split <;> simp_all

theorem asInt_eq_some {v : PyVal} {i : Int} (h : asInt v = some i) : v = .atom (.int i) := by
  unfold asInt at h; split at h <;> simp_all

/-- validators that let only texts through, in front of readers that only filter -/
theorem covers_str {inv : PyVal → Bool} {rd : Text → Option PyVal}
    (h : ∀ v, inv v = false → ∃ s, v = .atom (.str s) ∧ (rd s).isSome = true) :
    Covers C inv ("MafColumnRecord" :: sr) rd := by
  intro v hv hwf
  obtain ⟨s, rfl, hs⟩ := h v hv
  exact ⟨s, by simp [pyStr, atomStr], hs⟩

theorem covers_nullableString :
    Covers C (runValidate e lo hi ei ("NullableStringColumn" :: vr)) ("MafColumnRecord" :: sr)
      fun t => some (.atom (.str t)) :=
  covers_str fun v hv => by simpa [isInstanceStr_iff] using hv

theorem covers_string :
    Covers C (runValidate e lo hi ei ("StringColumn" :: "NullableStringColumn" :: vr)) ("MafColumnRecord" :: sr)
      fun t => if t = [] then none else some (.atom (.str t)) :=
  covers_str fun v hv => by
    simp only [runValidate_StringColumn, runValidate_NullableStringColumn] at hv
    split at hv
    · cases hv
    · rename_i h
      obtain ⟨s, rfl⟩ := isInstanceStr_iff.mp (by simpa using h)
      exact ⟨s, rfl, by simp_all [PyVal.truthy, Atom.truthy]⟩

theorem vDna_false {v : PyVal} (h : vDna v = false) :
    ∃ s, v = .atom (.str s) ∧ (s = ['-'] ∨ isDna s = true) := by
  unfold vDna at h
  split at h
  · exact ⟨_, rfl, by split at h <;> simp_all [isDna]⟩
  · cases h

theorem covers_nullableDna :
    Covers C (runValidate e lo hi ei ("NullableDnaString" :: vr)) ("MafColumnRecord" :: sr)
      fun t => if t = ['-'] ∨ isDna t then some (.atom (.str t)) else none :=
  covers_str fun v hv => by
    obtain ⟨s, rfl, hs⟩ := vDna_false (by simpa using hv)
    exact ⟨s, rfl, by simp [hs]⟩

theorem covers_dna :
    Covers C (runValidate e lo hi ei ("DnaString" :: "NullableDnaString" :: vr)) ("MafColumnRecord" :: sr)
      fun t => if t = [] then none else if t = ['-'] ∨ isDna t then some (.atom (.str t)) else none :=
  covers_str fun v hv => by
    simp only [runValidate_DnaString, runValidate_NullableDnaString] at hv
    split at hv
    · cases hv
    · rename_i h
      obtain ⟨s, rfl, hs⟩ := vDna_false (by simpa using h)
      exact ⟨s, rfl, by simp_all [PyVal.truthy, Atom.truthy]⟩

theorem covers_int :
    Covers C (runValidate e lo none ei ("IntegerColumn" :: vr)) ("MafColumnRecord" :: sr) (intAtLeast lo) := by
  intro v hv hwf
  simp only [runValidate_IntegerColumn, vIntRange] at hv
  split at hv
  · cases hv
  · rename_i i hi
    obtain rfl := asInt_eq_some hi
    refine ⟨intStr i, by simp [pyStr, atomStr], ?_⟩
    cases lo <;> simp_all [intAtLeast, pyInt_intStr]

theorem covers_strand :
    Covers C (runValidate e lo hi ei ("TranscriptStrand" :: vr)) ("MafColumnRecord" :: sr) strandRd := by
  intro v hv hwf
  simp only [runValidate_TranscriptStrand, vStrand] at hv
  split at hv
  · cases hv
  · rename_i i hi
    obtain rfl := asInt_eq_some hi
    have h : i = -1 ∨ i = 1 := Decidable.or_iff_not_imp_left.mpr (by simpa using hv)
    exact ⟨intStr i, by simp [pyStr, atomStr], by simp [strandRd, pyInt_intStr, h]⟩

theorem covers_float :
    Covers C (runValidate e lo hi ei ("FloatColumn" :: vr)) ("MafColumnRecord" :: sr) (floatRd C.H) := by
  intro v hv hwf
  simp only [runValidate_FloatColumn, isInstanceFloat] at hv
  split at hv
  · rename_i f
    exact ⟨f, by simp [pyStr, atomStr], by simp [floatRd, show C.H.parse f = some f from hwf]⟩
  · cases hv

theorem covers_uuid :
    Covers C (runValidate e lo hi ei ("UUIDColumn" :: vr)) ("MafColumnRecord" :: sr) uuidRd := by
  intro v hv hwf
  simp only [runValidate_UUIDColumn, isInstanceUuid] at hv
  split at hv
  · rename_i n
    exact ⟨uuidStr n, by simp [pyStr, atomStr], by simp [uuidRd, pyUuid_uuidStr n hwf]⟩
  · cases hv

theorem covers_canonical :
    Covers C (runValidate e lo hi ei ("Canonical" :: vr)) ("Canonical" :: sr) canonicalRd := by
  intro v hv hwf
  simp only [runValidate_Canonical, isInstanceBool] at hv
  split at hv
  · rename_i b
    cases b
    · exact ⟨[], by simp [runString, PyVal.truthy, Atom.truthy], by decide⟩
    · exact ⟨"YES".toList, by simp [runString, PyVal.truthy, Atom.truthy], by decide⟩
  · cases hv

theorem covers_boolean :
    Covers C (runValidate e lo hi ei ("BooleanColumn" :: vr)) ("MafColumnRecord" :: sr) booleanRd := by
  intro v hv hwf
  simp only [runValidate_BooleanColumn, isInstanceBool] at hv
  split at hv
  · rename_i b
    cases b
    · exact ⟨"False".toList, by simp [pyStr, atomStr], by decide⟩
    · exact ⟨"True".toList, by simp [pyStr, atomStr], by decide⟩
  · cases hv

/-- `str()` of what the mixed columns let through is always read -/
theorem covers_strInt :
    Covers C (runValidate e lo hi ei ("StringOrIntegerColumn" :: vr)) ("MafColumnRecord" :: sr) strIntRd := by
  intro v hv hwf
  rcases v with (_ | b | _ | _ | _ | _ | _ | _) | _ | _ <;>
    simp [isInstanceInt, isInstanceStr, pyStr, atomStr, strIntRd] at hv ⊢
  cases b <;> exact ⟨_, rfl⟩

theorem covers_strIntFloat :
    Covers C (runValidate e lo hi ei ("StringIntegerOrFloatColumn" :: vr)) ("MafColumnRecord" :: sr)
      (strIntFloatRd C.H) := by
  intro v hv hwf
  rcases v with (_ | b | _ | _ | _ | _ | _ | _) | _ | _ <;>
    simp [isInstanceInt, isInstanceStr, isInstanceFloat, pyStr, atomStr, strIntFloatRd] at hv ⊢
  cases b <;> exact ⟨_, rfl⟩

theorem vEnum_false {ec : String} {v : PyVal} (h : vEnum (some ec) v = false) :
    ∃ m, v = .atom (.enum ec m) := by
  unfold vEnum at h
  split at h
  · rename_i heq
    cases heq
    exact ⟨_, by rw [bne_eq_false_iff_eq.mp h]⟩
  · cases h

theorem covers_enum (hE : EnumsOK C.enums) {ec c : String} {pre : Text → Text}
    (hpre : pre = id ∨ pre = pyCapitalize ∧ capClasses.contains ec = true)
    (hc : c = "MafColumnRecord" ∨ c = "EnumColumn") :
    Covers C (runValidate (some ec) lo hi ei ("EnumColumn" :: vr)) (c :: sr) (enumRd ⟨C.enums, C.H⟩ ec pre) := by
  intro v hv hwf
  obtain ⟨m, rfl⟩ := vEnum_false (by simpa using hv)
  obtain ⟨val, hval⟩ := Option.isSome_iff_exists.mp hwf
  exact ⟨val, runString_enum hc sr hval, by rw [enumRd_value hE hpre hval]; rfl⟩

end Validators

/-! ### from the validator to the column -/

section Columns
variable {C : Ctx} {sp : ColSpec} {rd : Text → Option PyVal} {v : PyVal}

theorem valueInvalid_eq (hvm : sp.validateMethod = some "MafCustomColumnRecord") :
    sp.valueInvalid v = (!sp.isNullValue v &&
      runValidate sp.enumCls sp.minV sp.maxV sp.elemInvalid sp.validateChain v) := by
  simp only [ColSpec.valueInvalid, hvm]
  cases sp.isNullValue v <;> rfl

theorem rv_plain
    (hcov : Covers C (runValidate sp.enumCls sp.minV sp.maxV sp.elemInvalid sp.validateChain) sp.stringChain rd)
    (hvm : sp.validateMethod = some "MafCustomColumnRecord") (hn : sp.nullDict = none)
    (hwf : ValueWF C v) (hacc : ∀ t, sp.accept C false t = rd t) (hv : sp.valueInvalid v = false) :
    ∃ t, sp.render C.enums v = .ok t ∧ (sp.accept C false t).isSome = true := by
  have hnull : sp.isNullValue v = false := by simp [ColSpec.isNullValue, ColSpec.nullValues, hn]
  rw [valueInvalid_eq hvm, hnull] at hv
  obtain ⟨r, hr, hrd⟩ := hcov v hv hwf
  exact ⟨r, by rw [render_eq_runString hnull, hr], by rw [hacc, hrd]⟩

/-- a null value renders as its spelling, which is accepted; the empty text is accepted
    whatever the reader makes of it -/
theorem rv_nullable
    (hcov : Covers C (runValidate sp.enumCls sp.minV sp.maxV sp.elemInvalid sp.validateChain) sp.stringChain rd)
    (hvm : sp.validateMethod = some "MafCustomColumnRecord") (hn : sp.nullDict = some [("", .none)])
    (hwf : ValueWF C v) (hacc : ∀ t, sp.accept C false t = nullOr t rd) (hv : sp.valueInvalid v = false) :
    ∃ t, sp.render C.enums v = .ok t ∧ (sp.accept C false t).isSome = true := by
  rw [valueInvalid_eq hvm] at hv
  cases hnull : sp.isNullValue v with
  | true => exact ⟨[], render_null hn (isNullValue_single hn ▸ hnull), by rw [hacc]; rfl⟩
  | false =>
    rw [hnull] at hv
    obtain ⟨r, hr, hrd⟩ := hcov v hv hwf
    refine ⟨r, by rw [render_eq_runString hnull, hr], ?_⟩
    rw [hacc, nullOr]
    split
    · rfl
    · exact hrd

theorem rv_cap (hE : EnumsOK C.enums) {e : String} (he : capClasses.contains e = true)
    (hvm : sp.validateMethod = some "MafCustomColumnRecord") (hec : sp.enumCls = some e)
    (hvc : sp.validateChain = ["EnumColumn", "MafCustomColumnRecord"])
    (hs : sp.stringChain = ["EnumColumn", "MafColumnRecord"])
    (hn : sp.nullDict = some [("Null", .enumMember e "Null"), ("", .enumMember e "Null")])
    (hwf : ValueWF C v) (hacc : ∀ t, sp.accept C false t = capRd ⟨C.enums, C.H⟩ e t)
    (hv : sp.valueInvalid v = false) :
    ∃ t, sp.render C.enums v = .ok t ∧ (sp.accept C false t).isSome = true := by
  rw [valueInvalid_eq hvm] at hv
  cases hnull : sp.isNullValue v with
  | true =>
    have hx : PyVal.pyEq (.atom (.enum e "Null")) v = true := by
      simpa [ColSpec.isNullValue, ColSpec.nullValues, hn, NullVal.toPy] using hnull
    exact ⟨[], by simp [ColSpec.render, hn, NullVal.toPy, hx], by rw [hacc]; rfl⟩
  | false =>
    rw [hnull, hec, hvc] at hv
    obtain ⟨r, hr, hrd⟩ := covers_enum hE (.inr ⟨rfl, he⟩) (.inr rfl) v hv hwf
    refine ⟨r, by rw [render_eq_runString hnull, hs, hr], ?_⟩
    rw [hacc, capRd]
    split
    · rfl
    · exact hrd

theorem rv_entrez (hvm : sp.validateMethod = some "MafCustomColumnRecord") (hlo : sp.minV = some 0)
    (hhi : sp.maxV = none) (hvc : sp.validateChain = ["IntegerColumn", "MafCustomColumnRecord"])
    (hs : sp.stringChain = ["MafColumnRecord"]) (hn : sp.nullDict = some [("0", .none)])
    (hwf : ValueWF C v) (hacc : ∀ t, sp.accept C false t = entrezRd t)
    (hv : sp.valueInvalid v = false) :
    ∃ t, sp.render C.enums v = .ok t ∧ (sp.accept C false t).isSome = true := by
  rw [valueInvalid_eq hvm] at hv
  cases hnull : sp.isNullValue v with
  | true => exact ⟨['0'], render_null hn (isNullValue_single hn ▸ hnull), by rw [hacc]; rfl⟩
  | false =>
    rw [hnull, hlo, hhi, hvc] at hv
    obtain ⟨r, hr, hrd⟩ := covers_int v hv hwf
    refine ⟨r, by rw [render_eq_runString hnull, hs, hr], ?_⟩
    rw [hacc, entrezRd]
    unfold intAtLeast at hrd
    split at hrd <;> simp_all
    split <;> rfl

/-- scalars other than texts and floats are written without `;` (which is why the element
    validation of a sequence column looks for the separator in texts only) -/
theorem atomStr_noSemi (hE : EnumsOK C.enums) {a : Atom} {r : Text} (hwf : AtomWF C a)
    (hs : hasListSep a = false) (hf : ∀ t, a ≠ .float t) (hr : atomStr C.enums a = .ok r) : ';' ∉ r := by
  cases a with
  | none => cases hr; decide
  | bool b => cases b <;> cases hr <;> decide
  | int i => cases hr; exact (sepFree_intStr i).not_mem
  | float t => exact absurd rfl (hf t)
  | str s => cases hr; simpa [hasListSep] using hs
  | enum c m =>
    obtain ⟨val, hval⟩ := Option.isSome_iff_exists.mp hwf
    obtain rfl : val = r := by simpa [atomStr, hval] using hr
    exact (enumValue_ok hE hval).2.1.not_mem
  | uuid n => cases hr; exact (sepFree_uuidStr n).not_mem
  | other _ => cases hr

theorem seq_render_accept (S : SCtx) (elem : String) :
    ∀ xs : List Atom,
      (∀ a ∈ xs, ∃ s, atomStr S.enums a = .ok s ∧ ';' ∉ s ∧ (elemBuild S elem s).isSome = true) →
      ∃ ss, xs.mapM (atomStr S.enums) = .ok ss ∧ (∀ s ∈ ss, ';' ∉ s) ∧
        (ss.mapM (elemBuild S elem)).isSome = true
  | [], _ => ⟨[], rfl, by simp, rfl⟩
  | a :: xs, hel => by
    obtain ⟨s, hs, h1, h2⟩ := hel a (by simp)
    obtain ⟨ss, hss, hall, hm⟩ := seq_render_accept S elem xs fun x hx => hel x (by simp [hx])
    obtain ⟨b, hb⟩ := Option.isSome_iff_exists.mp h2
    obtain ⟨bs, hbs⟩ := Option.isSome_iff_exists.mp hm
    exact ⟨s :: ss, (mapM_except_cons _ _ _ _).mpr ⟨s, ss, hs, hss, rfl⟩,
      List.forall_mem_cons.mpr ⟨h1, hall⟩,
      by rw [(mapM_option_cons _ s ss _).mpr ⟨b, bs, hb, hbs, rfl⟩]; rfl⟩

/-- `hfl`: no element type lets a float through; nothing here says that a `repr` is free of
    `;` (`atomStr_noSemi`). -/
theorem rv_seq (hE : EnumsOK C.enums) {es : ElemSpec} {elem : String}
    (hcov : Covers C (runValidate es.enumCls es.minV es.maxV (fun _ => true) es.validateChain)
      ["MafColumnRecord"] fun p => (elemBuild ⟨C.enums, C.H⟩ elem p).map .atom)
    (hfl : ∀ t, runValidate es.enumCls es.minV es.maxV (fun _ => true) es.validateChain (.atom (.float t)) = true)
    (he : sp.elem = some es) (hvm : sp.validateMethod = some "MafCustomColumnRecord")
    (hn : sp.nullDict = some [("", .emptyList)])
    (hvc : sp.validateChain = ["SequenceOfValuesColumn", "MafCustomColumnRecord"])
    (hsc : sp.stringChain = ["SequenceOfValuesColumn", "MafColumnRecord"])
    (hwf : ValueWF C v) (hacc : ∀ t, sp.accept C false t = seqOf ⟨C.enums, C.H⟩ elem t)
    (hv : sp.valueInvalid v = false) :
    ∃ t, sp.render C.enums v = .ok t ∧ (sp.accept C false t).isSome = true := by
  rw [valueInvalid_eq hvm] at hv
  cases hnull : sp.isNullValue v with
  | true => exact ⟨[], render_null hn (isNullValue_single hn ▸ hnull), by rw [hacc]; rfl⟩
  | false =>
    rw [hnull, hvc, Bool.not_false, Bool.true_and, runValidate_SequenceOfValuesColumn] at hv
    have hxs : ∀ xs : List Atom, (∀ a ∈ xs, AtomWF C a) →
        (xs.any fun a => sp.elemInvalid a || hasListSep a) = false →
        ∃ t, (xs.mapM (atomStr C.enums)).map (joinWith ';') = .ok t ∧
          (sp.accept C false t).isSome = true := by
      intro xs hw hany
      obtain ⟨ss, hss, hsemi, hm⟩ := seq_render_accept ⟨C.enums, C.H⟩ elem xs fun a ha => by
        have hva := List.any_eq_false.mp hany a ha
        simp only [Bool.or_eq_true, not_or, Bool.not_eq_true, ColSpec.elemInvalid, he] at hva
        obtain ⟨r, hr, hrd⟩ := hcov (.atom a) hva.1 (hw a ha)
        rw [runString_base] at hr
        exact ⟨r, hr, atomStr_noSemi hE (hw a ha) hva.2 (fun t e => by simp [e, hfl] at hva) hr,
          by simpa using hrd⟩
      refine ⟨joinWith ';' ss, by simp [hss, Except.map], ?_⟩
      rw [hacc, seqOf]
      split
      · rfl
      · rename_i ht
        rwa [splitOn_joinWith ';' ss (fun e => ht (e ▸ rfl)) hsemi, Option.isSome_map]
    match v, hv, hwf with
    | .atom _, hv, _ => cases hv
    | .list xs, hv, hwf =>
      obtain ⟨t, ht, ha⟩ := hxs xs hwf hv
      exact ⟨t, by simpa [render_eq_runString hnull, hsc, runString] using ht, ha⟩
    | .tuple xs, hv, hwf =>
      obtain ⟨t, ht, ha⟩ := hxs xs hwf hv
      exact ⟨t, by simpa [render_eq_runString hnull, hsc, runString] using ht, ha⟩

end Columns

/-! ### all column types of the development -/

theorem rv_named (C : Ctx) (hE : EnumsOK C.enums) (n : String) (sp : ColSpec)
    (h : Expected.namedSpec n = some sp) (v : PyVal) (hv : sp.valueInvalid v = false)
    (hwf : ValueWF C v) :
    ∃ t, sp.render C.enums v = .ok t ∧ (sp.accept C false t).isSome = true :=
  Builtin.forall_named
    (P := fun n sp => (∀ t, sp.accept C false t = namedBuild ⟨C.enums, C.H⟩ n t) →
      sp.valueInvalid v = false → ∃ t, sp.render C.enums v = .ok t ∧ (sp.accept C false t).isSome = true)
    (NullableStringColumn := rv_nullable covers_nullableString rfl rfl hwf)
    (StringColumn := rv_plain covers_string rfl rfl hwf)
    (StringOrIntegerColumn := rv_plain covers_strInt rfl rfl hwf)
    (StringIntegerOrFloatColumn := rv_plain covers_strIntFloat rfl rfl hwf)
    (IntegerColumn := rv_plain covers_int rfl rfl hwf)
    (NullableIntegerColumn := rv_nullable covers_int rfl rfl hwf)
    (ZeroBasedIntegerColumn := rv_plain covers_int rfl rfl hwf)
    (OneBasedIntegerColumn := rv_plain covers_int rfl rfl hwf)
    (NullableZeroBasedIntegerColumn := rv_nullable covers_int rfl rfl hwf)
    (NullableOneBasedIntegerColumn := rv_nullable covers_int rfl rfl hwf)
    (EntrezGeneId := rv_entrez rfl rfl rfl rfl rfl rfl hwf)
    (FloatColumn := rv_plain covers_float rfl rfl hwf)
    (NullableFloatColumn := rv_nullable covers_float rfl rfl hwf)
    (SequenceOfStrings :=
      rv_seq hE (funext (elemStr_eq _) ▸ covers_string) (fun _ => rfl) rfl rfl rfl rfl rfl hwf)
    (SequenceOfIntegers :=
      rv_seq hE (funext (elemInt_eq _) ▸ covers_int) (fun _ => rfl) rfl rfl rfl rfl rfl hwf)
    (SequenceOfNullableYesOrNo :=
      rv_seq hE (covers_enum hE (.inr ⟨rfl, by decide⟩) (.inl rfl)) (fun _ => rfl) rfl rfl rfl rfl rfl hwf)
    (SequenceOfSequencers :=
      rv_seq hE (covers_enum hE (.inl rfl) (.inl rfl)) (fun _ => rfl) rfl rfl rfl rfl rfl hwf)
    (NullableDnaString := rv_nullable covers_nullableDna rfl rfl hwf)
    (DnaString := rv_plain covers_dna rfl rfl hwf)
    (Canonical := rv_plain covers_canonical rfl rfl hwf)
    (BooleanColumn := rv_plain covers_boolean rfl rfl hwf)
    (UUIDColumn := rv_plain covers_uuid rfl rfl hwf)
    (NullableUUIDColumn := rv_nullable covers_uuid rfl rfl hwf)
    (TranscriptStrand := rv_nullable covers_strand rfl rfl hwf)
    (YesNoOrUnknown := rv_plain (covers_enum hE (.inl rfl) (.inr rfl)) rfl rfl hwf)
    (Strand := rv_plain (covers_enum hE (.inl rfl) (.inr rfl)) rfl rfl hwf)
    (VariantClassification := rv_plain (covers_enum hE (.inl rfl) (.inr rfl)) rfl rfl hwf)
    (VariantType := rv_plain (covers_enum hE (.inl rfl) (.inr rfl)) rfl rfl hwf)
    (VariantSupport := rv_plain (covers_enum hE (.inl rfl) (.inr rfl)) rfl rfl hwf)
    (MutationStatus := rv_plain (covers_enum hE (.inl rfl) (.inr rfl)) rfl rfl hwf)
    (Sequencer := rv_plain (covers_enum hE (.inl rfl) (.inr rfl)) rfl rfl hwf)
    (Impact := rv_plain (covers_enum hE (.inl rfl) (.inr rfl)) rfl rfl hwf)
    (MC3Overlap := rv_plain (covers_enum hE (.inl rfl) (.inr rfl)) rfl rfl hwf)
    (GdcValidationStatus := rv_plain (covers_enum hE (.inl rfl) (.inr rfl)) rfl rfl hwf)
    (VerificationStatus := rv_nullable (covers_enum hE (.inl rfl) (.inr rfl)) rfl rfl hwf)
    (ValidationStatus := rv_nullable (covers_enum hE (.inl rfl) (.inr rfl)) rfl rfl hwf)
    (FeatureType := rv_nullable (covers_enum hE (.inl rfl) (.inr rfl)) rfl rfl hwf)
    (NullableYesOrNo := rv_cap hE (by decide) rfl rfl rfl rfl rfl hwf)
    (NullableYOrN := rv_cap hE (by decide) rfl rfl rfl rfl rfl hwf)
    (PickColumn := rv_cap hE (by decide) rfl rfl rfl rfl rfl hwf)
    h (fun t => Builtin.accept_named C n sp t h) hv

/-- C06 at one column: a value that validates renders to an accepted text, for every column
    type of the development (named types and `RequireNullValue` redefinitions, whose only valid
    value is `None`, rendered `""`) -/
theorem valid_render_accepted (C : Ctx) (hE : EnumsOK C.enums) (ty : ColType) (sp : ColSpec)
    (h : Builtin.expectedOf ty = some sp) (v : PyVal) (hv : sp.valueInvalid v = false)
    (hwf : ValueWF C v) :
    ∃ t, sp.render C.enums v = .ok t ∧ (sp.accept C false t).isSome = true := by
  cases ty with
  | named n => exact rv_named C hE n sp h v hv hwf
  | mixed extra b =>
    obtain ⟨rfl, n, hn, rfl, s, hs, hsp⟩ := Builtin.expectedOf_mixed h
    obtain ⟨-, hvm, hd, -⟩ := Builtin.maskable_spec hn hs
    replace hd : sp.nullDict = some [("", .none)] := hsp ▸ hd
    replace hvm : sp.validateMethod = some "MafCustomColumnRecord" := hsp ▸ hvm
    have hvc : sp.validateChain = "RequireNullValue" :: s.validateChain := hsp ▸ rfl
    rw [valueInvalid_eq hvm, hvc, runValidate_RequireNullValue, Bool.and_true, Bool.not_eq_false'] at hv
    exact ⟨[], render_null hd (isNullValue_single hd ▸ hv), by rw [Builtin.accept_masked h]; rfl⟩

end RenderValid
