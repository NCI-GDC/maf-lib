/-
  The fault-injection scenario of the spill-file effect model: add, iterate, close (again while it fails).
-/
import MafModel.Lemmas.ResourceClose
open Py Model MergeLemmas

namespace ResourceLemmas

theorem closeN_succ (fuel k : Nat) (log : PhaseLog) (s : RState) :
    scenario.closeN (fuel + 1) k log s =
      match exec close s with
      | (.ok (), s') => (log, s')
      | (.error e, s') => scenario.closeN fuel (k + 1)
          { log with raised := log.raised ++ [("close#" ++ toString k, e)] } s' := by
  rw [scenario.closeN]
  rfl

/-- once the fault has fired, one more `close()` returns and leaves nothing -/
theorem closeN_fired (fuel k : Nat) (log : PhaseLog) (s : RState) (hr : RInv s) (hf : s.fired = true) :
    (scenario.closeN (fuel + 1) k log s).1 = log ∧
    (scenario.closeN (fuel + 1) k log s).2.failAt = s.failAt ∧
    (scenario.closeN (fuel + 1) k log s).2.fired = true ∧
    CloseOk (scenario.closeN (fuel + 1) k log s).2 := by
  obtain ⟨_, s', h1, h2, h3, h4⟩ := (close_spec s hr).ok_of_fired hf
  rw [closeN_succ, h1]
  exact ⟨rfl, h2, h3, h4⟩

/-- `scenario.closeN`, begun in `s` with the log `log`, ended with `res`; `extra` are the entries it
    added to the log, one per `close()` that raised -/
structure CloseNQ (log : PhaseLog) (s : RState) (res : PhaseLog × RState) (extra : List (String × PyErr)) : Prop where
  raised : res.1.raised = log.raised ++ extra
  output : res.1.output = log.output
  io : ∀ p ∈ extra, p.2 = ioErr
  armed : extra ≠ [] → Fires s
  fired : res.2.fired = true → s.fired = true ∨ extra ≠ []
  failAt : res.2.failAt = s.failAt
  mono : s.fired = true ∨ extra ≠ [] → res.2.fired = true
  empty : CloseOk res.2

theorem closeN_spec (fuel k : Nat) (log : PhaseLog) (s : RState) (hr : RInv s) :
    ∃ extra, CloseNQ log s (scenario.closeN (fuel + 2) k log s) extra := by
  rw [closeN_succ]
  rcases (close_spec s hr).cases with ⟨_, s', hx, h1, h2, h3⟩ | ⟨s', hx, h1, hf, h3, h4⟩
  · rw [hx]
    exact ⟨[], by simp, rfl, fun _ h => (nomatch h), fun h => absurd rfl h, fun h => Or.inl (h2.symm.trans h), h1,
      fun h => h.elim (fun h => h2.trans h) (fun h => absurd rfl h), h3⟩
  · rw [hx]
    simp only []
    obtain ⟨g1, g2, g3, g4⟩ := closeN_fired fuel (k + 1)
      { log with raised := log.raised ++ [("close#" ++ toString k, ioErr)] } s' h4.1 h3
    refine ⟨[("close#" ++ toString k, ioErr)], by rw [g1], by rw [g1], fun p hp => ?_, fun _ => hf,
      fun _ => Or.inr (by simp), g2.trans h1, fun _ => g3, g4⟩
    rw [List.mem_singleton.1 hp]

/-! ## the whole scenario -/

def s0 (cap : Nat) (sp : Bool) (failAt : Option Nat) : RState :=
  { cap := cap, alwaysSpill := sp, failAt := failAt }

def keysOf (n : Nat) : List Nat := (List.range n).map (fun k => n - k)

theorem scenario_eq (n cap : Nat) (sp : Bool) (abandon failAt : Option Nat) :
    scenario n cap sp abandon failAt =
      match exec ((keysOf n).forM add) (s0 cap sp failAt) with
      | (r1, s1) =>
        match (match r1 with
          | .error e => (({ raised := [("add", e)] } : PhaseLog), s1)
          | .ok () =>
            match exec (iterate abandon) s1 with
            | (.ok out, s) => ({ output := some out }, s)
            | (.error e, s) => ({ raised := [("iterate", e)] }, s)) with
        | (log1, s2) => scenario.closeN 3 0 log1 s2 := rfl

/-- what holds of the result of `scenario`, whichever call the fault plan makes fail -/
structure ScenQ (n : Nat) (abandon failAt : Option Nat) (res : PhaseLog × RState) : Prop where
  empty : CloseOk res.2
  io : ∀ p ∈ res.1.raised, p.2 = ioErr
  propagates : res.2.fired = true → res.1.raised ≠ []
  onlyFault : res.1.raised ≠ [] → failAt.isSome = true ∧ res.2.fired = true
  output : failAt = none → abandon = none → res.1.output = some ((List.range n).map (· + 1))

theorem wf_s0 (cap : Nat) (sp : Bool) (failAt : Option Nat) : WF (s0 cap sp failAt) :=
  ⟨List.nodup_nil, List.nodup_nil, List.nodup_nil, fun _ h => (by cases h), fun _ h => (by cases h),
   fun _ h => (by cases h), fun _ h => (by cases h), rfl, fun _ h => (by cases h)⟩

theorem dinv_s0 (cap : Nat) (sp : Bool) (failAt : Option Nat) : DInv (s0 cap sp failAt) [] :=
  ⟨rfl, fun _ h => (by cases h), List.Perm.refl _⟩

theorem RInv.of_iterOk {s : RState} (h : IterOk s) : RInv s := .of_wf h.1 h.2.1 h.2.2

theorem RInv.of_idle {m : List (List Cursor)} {s : RState} (h : Idle m s) : RInv s :=
  .of_iterOk (.of_nil h.1 h.2.1)

theorem scenario_spec (n cap : Nat) (sp : Bool) (abandon failAt : Option Nat) :
    ScenQ n abandon failAt (scenario n cap sp abandon failAt) := by
  rw [scenario_eq]
  -- common ending: the close phase from a state satisfying the invariant
  have hend : ∀ (log1 : PhaseLog) (s2 : RState), RInv s2 → s2.failAt = failAt →
      (∀ p ∈ log1.raised, p.2 = ioErr) → (s2.fired = true → log1.raised ≠ []) →
      (log1.raised ≠ [] → failAt.isSome = true ∧ s2.fired = true) →
      (failAt = none → abandon = none → log1.output = some ((List.range n).map (· + 1))) →
      ScenQ n abandon failAt (scenario.closeN 3 0 log1 s2) := by
    intro log1 s2 hr hfa hio hprop honly hout
    obtain ⟨extra, q⟩ := closeN_spec 1 0 log1 s2 hr
    refine ⟨q.empty, fun p hp => ?_, fun hf hn => ?_, fun hne => ?_, fun h1 h2 => q.output.trans (hout h1 h2)⟩
    · rw [q.raised] at hp
      exact (List.mem_append.1 hp).elim (hio p) (q.io p)
    · rw [q.raised, List.append_eq_nil_iff] at hn
      exact (q.fired hf).elim (fun h => hprop h hn.1) (fun h => h hn.2)
    · rw [q.raised] at hne
      by_cases h1 : log1.raised = []
      · have hex : extra ≠ [] := fun h => hne (by rw [h1, h]; rfl)
        exact ⟨hfa ▸ (q.armed hex).2, q.mono (Or.inr hex)⟩
      · exact ⟨(honly h1).1, q.mono (Or.inl (honly h1).2)⟩
  -- a phase that raised: the one entry of the log is the I/O error, and a fault was planned
  have hraised : ∀ (ph : String) (s2 : RState), RInv s2 → s2.failAt = failAt → s2.failAt.isSome = true →
      s2.fired = true → ScenQ n abandon failAt (scenario.closeN 3 0 { raised := [(ph, ioErr)] } s2) :=
    fun ph s2 hr hfa hs hf => hend _ s2 hr hfa (fun p hp => by rw [List.mem_singleton.1 hp])
      (fun _ => List.cons_ne_nil _ _) (fun _ => ⟨hfa ▸ hs, hf⟩) (fun hn => by rw [hfa, hn] at hs; cases hs)
  rcases (addAll_spec (keysOf n) (s0 cap sp failAt) (wf_s0 _ _ _) rfl).cases with
    ⟨u, s1, hx, h1, h2, g, g4⟩ | ⟨s1, hx, h1, hf, h3, g⟩
  · rw [hx]
    simp only []
    rcases (iterate_spec abandon s1 g.1 g.2.1 g.2.2).cases with
      ⟨out, s2, hy, k1, k2, q, q4⟩ | ⟨s2, hy, k1, hf, k3, q⟩
    · rw [hy]
      refine hend _ s2 (.of_iterOk q) (k1.trans h1) (fun _ h => (nomatch h)) (fun hf => ?_)
        (fun h => absurd rfl h) (fun _ ha => ?_)
      · rw [k2, h2] at hf; cases hf
      · rw [q4 _ (g4 [] (dinv_s0 cap sp failAt)) ha]
        exact congrArg some (sorted_keys n)
    · rw [hy]
      exact hraised _ s2 (.of_iterOk q) (k1.trans h1) (k1 ▸ hf.2) k3
  · rw [hx]
    exact hraised _ s1 (.of_idle g) h1 (h1 ▸ hf.2) h3

/-! ## a second `close()` -/

theorem close_noop (s : RState) (h1 : s.merging = []) (h2 : s.paths = []) (h3 : s.fdsReg = []) :
    exec close s = (.ok (), s) := by
  rw [close_eq, exec_get_bind, h1, h2]
  cases s
  simp only at h1 h2 h3
  subst h1 h2 h3
  rfl

/-- the invariant holds of the states the harness closes: when the add phase is over, and when the
    iteration is over, however they ended -/
theorem rinv_after_add (keys : List Nat) (s : RState) (hw : WF s) (hh : s.handles = []) :
    RInv (exec (keys.forM add) s).2 :=
  (addAll_spec keys s hw hh).post (fun _ _ h => .of_idle h.1) (fun _ h => .of_idle h)

theorem rinv_after_iterate (limit : Option Nat) (s : RState) (hw : WF s) (hh : s.handles = [])
    (hm : s.merging = []) : RInv (exec (iterate limit) s).2 :=
  (iterate_spec limit s hw hh hm).post (fun _ _ h => .of_iterOk h.1) (fun _ h => .of_iterOk h)

end ResourceLemmas
