/-
  UUID round trip: `uuid.UUID(str(uuid.UUID(int=n))).int == n` for every 128-bit `n`,
  the alphabet of a rendered UUID, and the range of a parsed one.
  (Used by `Lemmas/Render.lean` and `Lemmas/RenderValid.lean`: properties C04 and C06.)
-/
import MafModel.Py.Uuid
namespace Py

def IsLowerHex (c : Char) : Prop := c.isDigit = true ∨ ('a' ≤ c ∧ c ≤ 'f')

theorem hexVal_digitChar : ∀ d, d < 16 → hexVal (Nat.digitChar d) = some d := by decide

theorem isLowerHex_digitChar : ∀ d, d < 16 → IsLowerHex (Nat.digitChar d) := by
  unfold IsLowerHex; decide

theorem toDigits16_isLowerHex (n : Nat) : ∀ c ∈ Nat.toDigits 16 n, IsLowerHex c := by
  induction n using Nat.strongRecOn with
  | _ n ih =>
    rw [Nat.toDigits_eq_if (by decide)]
    split
    · simpa using isLowerHex_digitChar n ‹_›
    · intro c hc
      rcases List.mem_append.mp hc with hc | hc
      · exact ih (n / 16) (by omega) c hc
      · exact List.mem_singleton.mp hc ▸ isLowerHex_digitChar _ (Nat.mod_lt _ (by decide))

theorem parseHex_append (l m : Text) (acc : Nat) :
    parseHex (l ++ m) acc = (parseHex l acc).bind (parseHex m) := by
  induction l generalizing acc with
  | nil => rfl
  | cons c cs ih =>
    simp only [List.cons_append, parseHex]
    cases hexVal c with
    | none => rfl
    | some d => exact ih _

theorem parseHex_toDigits16 (n : Nat) : parseHex (Nat.toDigits 16 n) 0 = some n := by
  induction n using Nat.strongRecOn with
  | _ n ih =>
    rw [Nat.toDigits_eq_if (by decide)]
    split
    · simp [parseHex, hexVal_digitChar n ‹_›]
    · rw [parseHex_append, ih (n / 16) (by omega)]
      simp only [Option.bind_some, parseHex, hexVal_digitChar _ (Nat.mod_lt n (by decide : 0 < 16))]
      congr 1
      omega

theorem parseHex_replicate_zero (k : Nat) (l : Text) :
    parseHex (List.replicate k '0' ++ l) 0 = parseHex l 0 := by
  induction k with
  | zero => rfl
  | succ k ih => exact ih

theorem hex32_isLowerHex (n : Nat) : ∀ c ∈ hex32 n, IsLowerHex c := by
  intro c hc
  rcases List.mem_append.mp hc with hc | hc
  · exact (List.mem_replicate.mp hc).2 ▸ .inl (by decide)
  · exact toDigits16_isLowerHex n c hc

theorem hex32_length (n : Nat) (h : n < 2 ^ 128) : (hex32 n).length = 32 := by
  have := (Nat.length_toDigits_le_iff (b := 16) (k := 32) (by decide) (by decide)).mpr
    (show n < 16 ^ 32 from h)
  simp only [hex32, List.length_append, List.length_replicate]
  omega

theorem parseHex_hex32 (n : Nat) : parseHex (hex32 n) 0 = some n := by
  rw [hex32, parseHex_replicate_zero, parseHex_toDigits16]

/-! ### `removeAll`, `stripBraces` on texts without the trigger characters -/

theorem removeAll_of_not_mem (p : Char) (ps s : Text) (h : p ∉ s) : removeAll p ps s = s := by
  induction s with
  | nil => simp [removeAll]
  | cons c cs ih =>
    have hc : p ≠ c := fun e => h (by simp [e])
    rw [removeAll]
    simp [List.isPrefixOf, hc, ih fun e => h (by simp [e])]

theorem stripBraces_of_all_not (s : Text) (h : ∀ c ∈ s, isBrace c = false) : stripBraces s = s := by
  have hd : s.dropWhile isBrace = s := by
    cases s with
    | nil => rfl
    | cons c cs => simp [h c (by simp)]
  rw [stripBraces, hd, rstripChars_of_all_not _ _ h]

/-- The five hyphen-free groups of `uuidStr n` concatenate to `hex32 n`. -/
theorem uuid_groups_join (h : Text) :
    h.take 8 ++ ((h.drop 8).take 4 ++ ((h.drop 12).take 4 ++ ((h.drop 16).take 4 ++ h.drop 20))) = h := by
  have e1 : h.drop 20 = (h.drop 16).drop 4 := by rw [List.drop_drop]
  have e2 : h.drop 16 = (h.drop 12).drop 4 := by rw [List.drop_drop]
  have e3 : h.drop 12 = (h.drop 8).drop 4 := by rw [List.drop_drop]
  rw [e1, List.take_append_drop, e2, List.take_append_drop, e3, List.take_append_drop,
    List.take_append_drop]

/-- Without its hyphens, `uuidStr n` is `hex32 n`: the five groups are consecutive pieces of it. -/
theorem filter_hyphen_uuidStr (n : Nat) : (uuidStr n).filter (· ≠ '-') = hex32 n := by
  have hk : ∀ l : Text, (∀ c ∈ l, c ∈ hex32 n) → l.filter (· ≠ '-') = l := fun l hl =>
    List.filter_eq_self.mpr fun c hc => by
      have : c.isDigit = true ∨ ('a' ≤ c ∧ c ≤ 'f') := hex32_isLowerHex n c (hl c hc)
      simp only [ne_eq, decide_eq_true_eq]
      rintro rfl
      revert this
      decide
  simp only [uuidStr, List.filter_append, List.filter_cons, show decide ('-' ≠ '-') = false from rfl,
    Bool.false_eq_true, if_false]
  rw [hk _ fun c hc => List.mem_of_mem_take hc,
    hk _ fun c hc => List.mem_of_mem_drop (List.mem_of_mem_take hc),
    hk _ fun c hc => List.mem_of_mem_drop (List.mem_of_mem_take hc),
    hk _ fun c hc => List.mem_of_mem_drop (List.mem_of_mem_take hc),
    hk _ fun c hc => List.mem_of_mem_drop hc]
  simp only [List.append_assoc]
  exact uuid_groups_join _

theorem uuidStr_chars (n : Nat) :
    ∀ c ∈ uuidStr n, c.isDigit = true ∨ ('a' ≤ c ∧ c ≤ 'f') ∨ c = '-' := by
  intro c hc
  by_cases h : c = '-'
  · exact .inr (.inr h)
  · have : c ∈ (uuidStr n).filter (· ≠ '-') := List.mem_filter.mpr ⟨hc, by simpa using h⟩
    rw [filter_hyphen_uuidStr] at this
    exact (hex32_isLowerHex n c this).imp_right .inl

theorem uuidStr_ne_nil (n : Nat) : uuidStr n ≠ [] := by
  intro h
  have : '-' ∈ uuidStr n := by simp [uuidStr]
  simp [h] at this

theorem uuidStr_length (n : Nat) (h : n < 2 ^ 128) : (uuidStr n).length = 36 := by
  have := hex32_length n h
  simp only [uuidStr, List.length_append, List.length_cons, List.length_take, List.length_drop]
  omega

theorem uuidNormalize_uuidStr (n : Nat) : uuidNormalize (uuidStr n) = hex32 n := by
  have hno : ∀ d : Char, ¬ (d.isDigit = true ∨ ('a' ≤ d ∧ d ≤ 'f') ∨ d = '-') → d ∉ uuidStr n :=
    fun d hd h => hd (uuidStr_chars n d h)
  have hu : 'u' ∉ uuidStr n := hno _ (by decide)
  have hb : ∀ c ∈ uuidStr n, isBrace c = false := by
    intro c hc
    have := uuidStr_chars n c hc
    simp only [isBrace, Bool.or_eq_false_iff, decide_eq_false_iff_not]
    constructor <;> (rintro rfl; revert this; decide)
  rw [uuidNormalize, removeAll_of_not_mem _ _ _ hu, removeAll_of_not_mem _ _ _ hu,
    stripBraces_of_all_not _ hb, filter_hyphen_uuidStr]

/-- `uuid.UUID(str(uuid.UUID(int=n))).int == n` for every 128-bit `n`. -/
theorem pyUuid_uuidStr (n : Nat) (h : n < 2 ^ 128) : pyUuid (uuidStr n) = some n := by
  simp only [pyUuid, uuidNormalize_uuidStr, hex32_length n h, if_true, parseHex_hex32]

example : pyUuid (uuidStr 0x123e4567e89b12d3a456426614174000) =
    some 0x123e4567e89b12d3a456426614174000 := pyUuid_uuidStr _ (by decide)

example : uuidStr 0x123e4567e89b12d3a456426614174000 =
    "123e4567-e89b-12d3-a456-426614174000".toList := by decide

theorem uuidStr_injective (a b : Nat) (ha : a < 2 ^ 128) (hb : b < 2 ^ 128)
    (h : uuidStr a = uuidStr b) : a = b :=
  Option.some.inj ((pyUuid_uuidStr a ha).symm.trans (h ▸ pyUuid_uuidStr b hb))

theorem isDigit_iff_toNat (c : Char) : c.isDigit = true ↔ 48 ≤ c.toNat ∧ c.toNat ≤ 57 := by
  simp only [Char.isDigit, Bool.and_eq_true, decide_eq_true_eq]
  exact Iff.rfl

theorem hexVal_lt (c : Char) (d : Nat) (h : hexVal c = some d) : d < 16 := by
  simp only [hexVal, isDigit_iff_toNat, Char.reduceToNat] at h
  split at h
  · cases h; omega
  · split at h
    · cases h; omega
    · split at h
      · cases h; omega
      · cases h

theorem parseHex_lt (l : Text) (acc n : Nat) (h : parseHex l acc = some n) :
    n < 16 ^ l.length * (acc + 1) := by
  induction l generalizing acc with
  | nil => cases h; simp
  | cons c cs ih =>
    simp only [parseHex] at h
    split at h
    · have hd := hexVal_lt c _ ‹_›
      calc n < 16 ^ cs.length * (16 * acc + _ + 1) := ih _ h
        _ ≤ 16 ^ cs.length * (16 * (acc + 1)) := Nat.mul_le_mul_left _ (by omega)
        _ = 16 ^ (c :: cs).length * (acc + 1) := by
          rw [List.length_cons, Nat.pow_succ, Nat.mul_assoc]
    · cases h

theorem pyUuid_lt (t : Text) (n : Nat) (h : pyUuid t = some n) : n < 2 ^ 128 := by
  simp only [pyUuid] at h
  split at h
  · have := parseHex_lt _ _ _ h
    rwa [‹(uuidNormalize t).length = 32›] at this
  · cases h

/-- `uuid.UUID` also accepts upper case, braces and `urn:uuid:`. -/
example : pyUuid "urn:uuid:{123E4567-E89B-12D3-A456-426614174000}".toList =
    some 0x123e4567e89b12d3a456426614174000 := by
  simp [pyUuid, uuidNormalize, removeAll, stripBraces, rstripChars, isBrace, parseHex, hexVal]

end Py
