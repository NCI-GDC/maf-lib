/-
  Text round trips of the model's string functions (`MafModel/Py/Text.lean`).
  CR/LF stripping and TAB split/join carry the record round trips of C06 and C02 (through
  `FromLineAccept`, `WriterLemmas`, `RoundTrip`); membership in a join is used by `Render` (C04).
  The `textLines` section and the ASCII case maps say what those functions do on the inputs the
  reader and the column builders give them; no other module builds on them.
-/
import MafModel.Py.Text
namespace Py

/-! ### `rstrip("\r\n")` -/

theorem rstripCRLF_of_clean (s : Text) (h : ∀ c ∈ s, c ≠ '\r' ∧ c ≠ '\n') :
    rstripCRLF s = s :=
  rstripChars_of_all_not _ s fun c hc => by simp [isCRLF, h c hc]

theorem rstripChars_append_all (p : Char → Bool) (s t : Text)
    (hs : ∀ c, s.getLast? = some c → p c = false) (ht : ∀ c ∈ t, p c = true) :
    rstripChars p (s ++ t) = s := by
  unfold rstripChars
  rw [List.reverse_append, List.dropWhile_append_of_pos (by simpa using ht)]
  exact rstripChars_of_not_last p s hs

theorem rstripCRLF_append_lf (s : Text) (h : ∀ c ∈ s, c ≠ '\r' ∧ c ≠ '\n') :
    rstripCRLF (s ++ ['\n']) = s ∧ rstripCRLF (s ++ ['\r', '\n']) = s ∧
      rstripCRLF (s ++ ['\r']) = s := by
  have hs : ∀ c, s.getLast? = some c → isCRLF c = false := fun c hc => by
    simp [isCRLF, h c (List.mem_of_getLast? hc)]
  refine ⟨?_, ?_, ?_⟩ <;> apply rstripChars_append_all _ _ _ hs <;> decide

/-! ### `textLines` (universal-newline reading) -/

theorem textLines_eq_go (s : Text) : textLines s = textLines.go s [] := by
  cases s with
  | nil => rfl
  | cons c cs => rw [textLines.eq_2 _ (by simp)]

theorem textLines_go_clean (l rest acc : Text) (h : ∀ c ∈ l, c ≠ '\r' ∧ c ≠ '\n') :
    textLines.go (l ++ rest) acc = textLines.go rest (l.reverse ++ acc) := by
  induction l generalizing acc with
  | nil => rfl
  | cons c cs ih =>
    have hc := h c (by simp)
    rw [List.cons_append, textLines.go.eq_5 acc c (cs ++ rest) (fun e => hc.2 e)
      (fun _ e _ => hc.1 e) (fun e => hc.1 e), ih _ (fun d hd => h d (by simp [hd]))]
    simp

theorem textLines_go_line (l rest acc : Text) (h : ∀ c ∈ l, c ≠ '\r' ∧ c ≠ '\n') {term : Text}
    (ht : term = ['\n'] ∨ term = ['\r', '\n']) :
    textLines.go (l ++ term ++ rest) acc = (acc.reverse ++ l) :: textLines.go rest [] := by
  rw [List.append_assoc, textLines_go_clean l _ acc h]
  rcases ht with rfl | rfl <;> simp [textLines.go]

theorem textLines_go_lines {term : Text} (ht : term = ['\n'] ∨ term = ['\r', '\n'])
    (ls : List Text) (h : ∀ l ∈ ls, ∀ c ∈ l, c ≠ '\r' ∧ c ≠ '\n') (rest : Text) :
    textLines.go (ls.flatMap (· ++ term) ++ rest) [] = ls ++ textLines.go rest [] := by
  induction ls with
  | nil => rfl
  | cons l r ih =>
    rw [List.flatMap_cons, List.append_assoc, textLines_go_line l _ [] (h l (by simp)) ht,
      ih (fun m hm => h m (by simp [hm]))]
    rfl

/-- Empty lines included: `textLines` has no special case here because every line, also the
    last, carries its terminator. -/
theorem textLines_join (ls : List Text) (h : ∀ l ∈ ls, ∀ c ∈ l, c ≠ '\r' ∧ c ≠ '\n') :
    textLines (ls.flatMap (fun l => l ++ ['\n'])) = ls := by
  simpa [textLines_eq_go, textLines.go] using textLines_go_lines (.inl rfl) ls h []

theorem textLines_join_crlf (ls : List Text) (h : ∀ l ∈ ls, ∀ c ∈ l, c ≠ '\r' ∧ c ≠ '\n') :
    textLines (ls.flatMap (fun l => l ++ ['\r', '\n'])) = ls := by
  simpa [textLines_eq_go, textLines.go] using textLines_go_lines (.inr rfl) ls h []

/-- A final line without terminator is returned iff it is non-empty: this is the one place
    where `textLines` treats the last line specially (`"a\n"` and `"a\n" + ""` are the same
    file, so an unterminated *empty* last line does not exist). -/
theorem textLines_join_unterminated (ls : List Text) (last : Text)
    (h : ∀ l ∈ ls, ∀ c ∈ l, c ≠ '\r' ∧ c ≠ '\n') (hl : ∀ c ∈ last, c ≠ '\r' ∧ c ≠ '\n') :
    textLines (ls.flatMap (fun l => l ++ ['\n']) ++ last) =
      if last = [] then ls else ls ++ [last] := by
  have := textLines_go_clean last [] [] hl
  rw [List.append_nil] at this
  rw [textLines_eq_go, textLines_go_lines (.inl rfl) ls h last, this]
  cases last <;> simp [textLines.go]

example : textLines "a\tb\n\nc d\n".toList = ["a\tb".toList, [], "c d".toList] :=
  textLines_join ["a\tb".toList, [], "c d".toList] (by decide)

/-! ### TAB split / join -/

theorem splitOn_tab_join (fields : List Text) (hne : fields ≠ [])
    (h : ∀ f ∈ fields, '\t' ∉ f) : splitOn '\t' (joinWith '\t' fields) = fields :=
  splitOn_joinWith '\t' fields hne h

example : splitOn '\t' (joinWith '\t' ["chr1".toList, [], "12".toList]) =
    ["chr1".toList, [], "12".toList] :=
  splitOn_tab_join _ (by simp) (by decide)

theorem mem_joinWith (sep : Char) (xs : List Text) (c : Char) (hc : c ∈ joinWith sep xs) :
    c = sep ∨ ∃ x ∈ xs, c ∈ x := by
  fun_induction joinWith sep xs with
  | case1 => cases hc
  | case2 x => exact .inr ⟨x, by simp, hc⟩
  | case3 x y r ih =>
    simp only [List.mem_append, List.mem_cons] at hc
    rcases hc with hc | rfl | hc
    · exact .inr ⟨x, by simp, hc⟩
    · exact .inl rfl
    · exact (ih hc).imp_right fun ⟨z, hz, hcz⟩ => ⟨z, List.mem_cons_of_mem _ hz, hcz⟩

theorem mem_joinWith_of_mem (sep : Char) (xs : List Text) (x : Text) (c : Char)
    (hx : x ∈ xs) (hc : c ∈ x) : c ∈ joinWith sep xs := by
  fun_induction joinWith sep xs with
  | case1 => cases hx
  | case2 y => rwa [← List.mem_singleton.1 hx]
  | case3 y z r ih =>
    rcases List.mem_cons.1 hx with rfl | hx
    · simp [hc]
    · simp [ih hx]

theorem joinWith_tab_clean (fields : List Text)
    (h : ∀ f ∈ fields, ∀ c ∈ f, c ≠ '\r' ∧ c ≠ '\n') :
    ∀ c ∈ joinWith '\t' fields, c ≠ '\r' ∧ c ≠ '\n' := by
  intro c hc
  rcases mem_joinWith _ _ _ hc with rfl | ⟨f, hf, hcf⟩
  · decide
  · exact h f hf c hcf

theorem joinWith_length (sep : Char) (xs : List Text) :
    (joinWith sep xs).length = (xs.map List.length).sum + (xs.length - 1) := by
  fun_induction joinWith sep xs with
  | case1 => rfl
  | case2 x => simp
  | case3 x y r ih =>
    rw [List.length_append, List.length_cons, ih]
    simp only [List.map_cons, List.sum_cons, List.length_cons]
    omega

theorem joinWith_count_sep (sep : Char) (xs : List Text) (h : ∀ x ∈ xs, sep ∉ x) :
    (joinWith sep xs).count sep = xs.length - 1 := by
  fun_induction joinWith sep xs with
  | case1 => rfl
  | case2 x => simpa using List.count_eq_zero.2 (h x (by simp))
  | case3 x y r ih =>
    rw [List.count_append, List.count_cons_self, List.count_eq_zero.2 (h x (by simp)),
      ih (fun z hz => h z (by simp [hz]))]
    simp

theorem joinWith_injective (sep : Char) (xs ys : List Text) (hx : xs ≠ []) (hy : ys ≠ [])
    (h1 : ∀ x ∈ xs, sep ∉ x) (h2 : ∀ y ∈ ys, sep ∉ y)
    (h : joinWith sep xs = joinWith sep ys) : xs = ys := by
  rw [← splitOn_joinWith sep xs hx h1, h, splitOn_joinWith sep ys hy h2]

/-! ### ASCII case maps -/

/- The two maps on the 128 ASCII code points: the image is ASCII and the map idempotent.
   A finite table, so the kernel evaluates it. -/
theorem asciiUpper_ascii : ∀ n, n < 128 →
    (asciiUpper (Char.ofNat n)).toNat < 128 ∧
    asciiUpper (asciiUpper (Char.ofNat n)) = asciiUpper (Char.ofNat n) := by decide +kernel

theorem asciiLower_ascii : ∀ n, n < 128 →
    (asciiLower (Char.ofNat n)).toNat < 128 ∧
    asciiLower (asciiLower (Char.ofNat n)) = asciiLower (Char.ofNat n) := by decide +kernel

theorem asciiUpper_toNat_lt (c : Char) (h : c.toNat < 128) : (asciiUpper c).toNat < 128 := by
  simpa using (asciiUpper_ascii c.toNat h).1

theorem asciiUpper_idem (c : Char) (h : c.toNat < 128) :
    asciiUpper (asciiUpper c) = asciiUpper c := by
  simpa using (asciiUpper_ascii c.toNat h).2

theorem asciiLower_toNat_lt (c : Char) (h : c.toNat < 128) : (asciiLower c).toNat < 128 := by
  simpa using (asciiLower_ascii c.toNat h).1

theorem asciiLower_idem (c : Char) (h : c.toNat < 128) :
    asciiLower (asciiLower c) = asciiLower c := by
  simpa using (asciiLower_ascii c.toNat h).2

theorem upperChar_of_ascii (c : Char) (h : c.toNat < 128) : upperChar c = [asciiUpper c] := by
  simp [upperChar, h]

theorem lowerChar_of_ascii (c : Char) (h : c.toNat < 128) : lowerChar c = [asciiLower c] := by
  simp [lowerChar, h]

theorem titleChar_of_ascii (c : Char) (h : c.toNat < 128) : titleChar c = [asciiUpper c] := by
  simp [titleChar, h]

theorem flatMap_eq_map_of_singleton {f : Char → Text} {g : Char → Char} {l : Text}
    (h : ∀ c ∈ l, f c = [g c]) : l.flatMap f = l.map g := by
  induction l with
  | nil => rfl
  | cons c cs ih => simp [h c (by simp), ih (fun d hd => h d (by simp [hd]))]

theorem pyUpper_of_ascii (s : Text) (h : ∀ c ∈ s, c.toNat < 128) : pyUpper s = s.map asciiUpper :=
  flatMap_eq_map_of_singleton fun c hc => upperChar_of_ascii c (h c hc)

theorem isAscii_iff (s : Text) : isAscii s = true ↔ ∀ c ∈ s, c.toNat < 128 := by
  simp [isAscii, List.all_eq_true]

/-- The model's `upperChar` is idempotent on *every* character (the ten special non-ASCII
    code points map to upper-case ASCII letters, all others are fixed). -/
theorem upperChar_idem (c : Char) : (upperChar c).flatMap upperChar = upperChar c := by
  by_cases h : c.toNat < 128
  · rw [upperChar_of_ascii c h, List.flatMap_singleton,
      upperChar_of_ascii _ (asciiUpper_toNat_lt c h), asciiUpper_idem c h]
  · have key : upperChar c = [c] ∨ ∀ d ∈ upperChar c, upperChar d = [d] := by
      unfold upperChar
      rw [if_neg h]
      split <;> first | exact .inl rfl | exact .inr (by decide)
    rcases key with e | e
    · rw [e, List.flatMap_singleton, e]
    · rw [flatMap_eq_map_of_singleton e, List.map_id']

/-- `s.upper().upper() == s.upper()` for every text (in the model). -/
theorem pyUpper_idem (s : Text) : pyUpper (pyUpper s) = pyUpper s := by
  unfold pyUpper
  rw [List.flatMap_assoc]
  congr 1
  funext c
  exact upperChar_idem c

/-- The instance of `pyUpper_idem` at a pure-ASCII `s`; the proof does not need the hypothesis. -/
theorem pyUpper_ascii_idem (s : Text) (h : ∀ c ∈ s, c.toNat < 128) :
    pyUpper (pyUpper s) = pyUpper s :=
  pyUpper_idem s

example : pyUpper (pyUpper "Snp_x".toList) = pyUpper "Snp_x".toList :=
  pyUpper_ascii_idem _ (by decide)

theorem pyCapitalize_of_ascii (c : Char) (cs : Text) (h : ∀ d ∈ c :: cs, d.toNat < 128) :
    pyCapitalize (c :: cs) = asciiUpper c :: cs.map asciiLower := by
  rw [pyCapitalize, titleChar_of_ascii c (h c (by simp)),
    flatMap_eq_map_of_singleton fun d hd => lowerChar_of_ascii d (h d (by simp [hd]))]
  rfl

/-- `s.capitalize().capitalize() == s.capitalize()` for pure-ASCII `s`. -/
theorem pyCapitalize_ascii_idem (s : Text) (h : ∀ c ∈ s, c.toNat < 128) :
    pyCapitalize (pyCapitalize s) = pyCapitalize s := by
  cases s with
  | nil => rfl
  | cons c cs =>
    have hc := h c (by simp)
    have hcs : ∀ d ∈ cs, d.toNat < 128 := fun d hd => h d (by simp [hd])
    rw [pyCapitalize_of_ascii c cs h, pyCapitalize_of_ascii]
    · rw [asciiUpper_idem c hc, List.map_map]
      congr 1
      exact List.map_congr_left fun d hd => asciiLower_idem d (hcs d hd)
    · intro d hd
      simp only [List.mem_cons, List.mem_map] at hd
      rcases hd with rfl | ⟨e, he, rfl⟩
      · exact asciiUpper_toNat_lt c hc
      · exact asciiLower_toNat_lt e (hcs e he)

example : pyCapitalize "sNP".toList = "Snp".toList := by
  rw [show "sNP".toList = 's' :: "NP".toList from rfl, pyCapitalize_of_ascii _ _ (by decide)]
  decide

end Py
