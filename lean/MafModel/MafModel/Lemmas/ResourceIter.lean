/-
  The iteration phase of the spill-file effect model: cursors, the merge loop, `iterate`.
  Only the trace, the fault flag, the handles, the id counter and the registered cursors
  change (`Fr`), and every handle that is open belongs to a cursor that is not marked closed
  (`Covered`), so that closing the cursors releases them all.

  Each operation gets one `…_spec : Outcome s (exec op s) Q E`; the predicates named `…Q` say what
  holds of result and state when the operation returns, those named `…E` what holds of the state
  when it raises.
-/
import MafModel.Lemmas.ResourceLemmas
open Py Model MergeLemmas

namespace ResourceLemmas

/-- every open handle belongs to a cursor of `cs` that is not marked closed -/
def Covered (H : List Nat) (cs : List Cursor) : Prop :=
  ∀ h ∈ H, ∃ c ∈ cs, c.handle = h ∧ c.closed = false

theorem Covered.mono {H H' : List Nat} {cs : List Cursor} (hc : Covered H cs) (hsub : ∀ h ∈ H', h ∈ H) :
    Covered H' cs := fun h hh => hc h (hsub h hh)

/-- handles are released at most, and the registered cursors stay as they are -/
def Shrink (s s' : RState) : Prop := Fr s s' ∧ s'.merging = s.merging ∧ s'.handles.Sublist s.handles

theorem Shrink.refl (s : RState) : Shrink s s := ⟨Fr.refl s, rfl, List.Sublist.refl _⟩
theorem Shrink.trans {a b c : RState} (h1 : Shrink a b) (h2 : Shrink b c) : Shrink a c :=
  ⟨h1.1.trans h2.1, h2.2.1.trans h1.2.1, h2.2.2.trans h1.2.2⟩

theorem HInv.shrink {s s' : RState} (h : HInv s) (k : Shrink s s') : HInv s' :=
  ⟨h.nd.sublist k.2.2, fun x hx => Nat.lt_of_lt_of_le (h.lt x (k.2.2.subset hx)) k.1.2⟩

/-- `advance c` returned `c'`: the next key is its look-ahead, or it is closed at the end of its file
    and its handle released.  (When `advance` raises, `Shrink` is all that is known.) -/
def AdvQ (s : RState) (c c' : Cursor) (s' : RState) : Prop :=
  Shrink s s' ∧
    ((∃ k ks, c.rest = k :: ks ∧ c' = { c with rest := ks, peek := some k } ∧ s'.handles = s.handles) ∨
     (c.rest = [] ∧ c' = { c with closed := true, peek := none } ∧ s'.handles = s.handles.erase c.handle))

theorem advance_spec (c : Cursor) (s : RState) :
    Outcome s (exec (advance c) s) (AdvQ s c) (Shrink s) := by
  unfold advance AdvQ
  rcases hread_exec s with ⟨t, h⟩ | ⟨hf, t, h⟩
  · rw [exec_bind_ok h]
    cases c.rest with
    | nil =>
      simp only []
      rw [exec_tryCatch]
      rcases hclose_exec .hcloseR c.handle (tr s t) with ⟨t2, h2⟩ | ⟨hf2, t2, h2⟩
      · rw [exec_bind_ok h2]
        exact .ok rfl rfl ⟨⟨Fr.refl s, rfl, List.erase_sublist⟩, Or.inr ⟨trivial, rfl, rfl⟩⟩
      · rw [exec_bind_err h2]
        exact .err rfl hf2 rfl ⟨Fr.refl s, rfl, List.erase_sublist⟩
    | cons k ks =>
      simp only []
      rcases hread_exec (tr s t) with ⟨t2, h2⟩ | ⟨hf2, t2, h2⟩
      · rw [exec_bind_ok h2]
        exact .ok rfl rfl ⟨Shrink.refl s, Or.inl ⟨k, ks, rfl, rfl, rfl⟩⟩
      · rw [exec_bind_err h2]
        exact .err rfl hf2 rfl (Shrink.refl s)
  · rw [exec_bind_err h]
    exact .err rfl hf rfl (Shrink.refl s)

/-- after `closeCursors cs`, returned or raised: no handle that is still open belongs to a cursor
    of `cs` that is not marked closed -/
def CloseQ (s : RState) (cs : List Cursor) (s' : RState) : Prop :=
  Shrink s s' ∧ ∀ h ∈ s'.handles, ∀ c ∈ cs, c.handle = h → c.closed = true

theorem CloseQ.trans {s s1 s2 : RState} {cs cs' : List Cursor} (h1 : CloseQ s cs s1) (h2 : CloseQ s1 cs' s2) :
    CloseQ s (cs ++ cs') s2 :=
  ⟨h1.1.trans h2.1, fun h hh c hc hch => (List.mem_append.1 hc).elim
    (fun hc => h1.2 h (h2.1.2.2.subset hh) c hc hch) (fun hc => h2.2 h hh c hc hch)⟩

/-- so, if the cursors covered the open handles, none is left -/
theorem CloseQ.handles_nil {s s' : RState} {cs : List Cursor} (hq : CloseQ s cs s')
    (hc : Covered s.handles cs) : s'.handles = [] := by
  rw [List.eq_nil_iff_forall_not_mem]
  intro h hh
  obtain ⟨c, hc0, hc1, hc2⟩ := hc h (hq.1.2.2.subset hh)
  have := hq.2 h hh c hc0 hc1
  rw [hc2] at this; cases this

theorem hclose_spec (c : IOCall) (h : Nat) (s : RState) :
    Outcome s (exec (hclose c h) s) (fun _ s' => Shrink s s' ∧ s'.handles = s.handles.erase h)
      (fun s' => Shrink s s' ∧ s'.handles = s.handles.erase h) := by
  rcases hclose_exec c h s with ⟨t, ht⟩ | ⟨hf, t, ht⟩
  · rw [ht]; exact .ok rfl rfl ⟨⟨Fr.refl s, rfl, List.erase_sublist⟩, rfl⟩
  · rw [ht]; exact .err rfl hf rfl ⟨⟨Fr.refl s, rfl, List.erase_sublist⟩, rfl⟩

/-- the step of the loop in `closeCursors` -/
def closeStep (first : Option PyErr) (c : Cursor) : M (Option PyErr) := do
  let s ← get
  if c.closed || !s.handles.contains c.handle then pure first
  else collectOS first (hclose .hcloseR c.handle)

theorem closeCursors_eq (cs : List Cursor) : closeCursors cs = (do
    let first ← cs.foldlM closeStep none
    match first with
    | some e => throw e
    | none => pure ()) := rfl

theorem closeFold_spec (cs : List Cursor) (first : Option PyErr) (s0 s : RState) (hi : HInv s)
    (hseen : Seen s0 s first) :
    ∃ first' s', exec (cs.foldlM closeStep first) s = (.ok first', s') ∧ Seen s0 s' first' ∧
      CloseQ s cs s' := by
  induction cs generalizing first s with
  | nil => exact ⟨first, s, rfl, hseen, Shrink.refl s, fun _ _ _ hc => by cases hc⟩
  | cons c cs ih =>
    have hstep : ∃ f1 s1, exec (closeStep first c) s = (.ok f1, s1) ∧ Seen s0 s1 f1 ∧ CloseQ s [c] s1 := by
      unfold closeStep
      rw [exec_get_bind]
      split
      next hc =>
        refine ⟨first, s, rfl, hseen, Shrink.refl s, fun h hh c' hc' hch => ?_⟩
        obtain rfl := List.mem_singleton.1 hc'
        simp only [Bool.or_eq_true, Bool.not_eq_true', List.contains_eq_mem, decide_eq_false_iff_not] at hc
        exact hc.elim id (fun hn => absurd (hch ▸ hh) hn)
      next =>
        obtain ⟨f1, s1, h1, hs1, _, hq⟩ := hseen.collectOS (hclose_spec .hcloseR c.handle s)
        obtain ⟨hk, he⟩ := hq.elim id id
        refine ⟨f1, s1, h1, hs1, hk, fun h hh c' hc' hch => ?_⟩
        rw [he, hi.nd.mem_erase_iff] at hh
        obtain rfl := List.mem_singleton.1 hc'
        exact absurd hch.symm hh.1
    obtain ⟨f1, s1, h1, hs1, q1⟩ := hstep
    obtain ⟨f2, s2, h2, hs2, q2⟩ := ih f1 s1 (hi.shrink q1.1) hs1
    exact ⟨f2, s2, by rw [List.foldlM_cons, exec_bind_ok h1]; exact h2, hs2, q1.trans q2⟩

theorem closeCursors_spec (cs : List Cursor) (s : RState) (hi : HInv s) :
    Outcome s (exec (closeCursors cs) s) (fun _ => CloseQ s cs) (CloseQ s cs) := by
  obtain ⟨f, s', h1, h2, h3⟩ := closeFold_spec cs none s s hi (Seen.refl s)
  rw [closeCursors_eq, exec_bind_ok h1]
  exact h2.outcome (fun _ => h3) (fun _ => h3)

/-! ### `_SortedIterator(path)` -/

theorem erase_append_fresh {H : List Nat} {N : Nat} (h : N ∉ H) : (H ++ [N]).erase N = H := by
  rw [List.erase_append_right _ h]; simp

/-- `newCursor keys` returned `c`: its keys are those of the file, and the one handle that may have
    been added is its own.  (When `newCursor` raises, the handle is gone again: `Shrink`.) -/
def NewQ (s : RState) (keys : List Nat) (c : Cursor) (s' : RState) : Prop :=
  Fr s s' ∧ s'.merging = s.merging ∧ HInv s' ∧ pending c = keys ∧
    ∀ h ∈ s'.handles, h ∈ s.handles ∨ (c.handle = h ∧ c.closed = false)

theorem newCursor_spec (keys : List Nat) (s : RState) (hi : HInv s) :
    Outcome s (exec (newCursor keys) s) (NewQ s keys) (Shrink s) := by
  have hfresh : s.nextId ∉ s.handles := fun h => Nat.lt_irrefl _ (hi.lt _ h)
  unfold newCursor
  rcases gzopen_exec .gzopenR s with ⟨t, h⟩ | ⟨hf, t, h⟩
  · rw [exec_bind_ok h]
    simp only []
    rw [exec_tryCatch]
    have hi1 : HInv { tr s t with handles := s.handles ++ [s.nextId], nextId := s.nextId + 1 } :=
      ⟨nodup_append_fresh hi.nd hi.lt, lt_append_fresh hi.lt (Nat.lt_succ_self _) (Nat.le_succ _)⟩
    have hfr : Fr s { tr s t with handles := s.handles ++ [s.nextId], nextId := s.nextId + 1 } :=
      ⟨rfl, Nat.le_succ _⟩
    rcases (advance_spec { handle := s.nextId, rest := keys, peek := none }
      { tr s t with handles := s.handles ++ [s.nextId], nextId := s.nextId + 1 }).cases with
      ⟨c', s2, hx, h1, h2, hk, hc⟩ | ⟨s2, hx, h1, hf2, h3, hk⟩
    · rw [hx]
      refine .ok h1 h2 ⟨hfr.trans hk.1, hk.2.1, hi1.shrink hk, ?_, fun h hh => ?_⟩
      · rcases hc with ⟨k, ks, hr, rfl, _⟩ | ⟨hr, rfl, _⟩ <;> simp only [] at hr <;> simp [pending, hr]
      · rcases hc with ⟨k, ks, _, rfl, hH⟩ | ⟨_, rfl, hH⟩
        · rw [hH] at hh
          exact (List.mem_append.1 hh).imp id (fun h' => ⟨(List.mem_singleton.1 h').symm, rfl⟩)
        · rw [hH, erase_append_fresh hfresh] at hh
          exact Or.inl hh
    · rw [hx]
      simp only []
      rw [exec_get_bind]
      -- either way the new handle is gone afterwards
      have hsub : (s2.handles.erase s.nextId).Sublist s.handles := by
        have := hk.2.2.erase s.nextId
        rwa [erase_append_fresh hfresh] at this
      split
      · obtain ⟨t3, hc3⟩ := swallowOS_hclose_fired .hcloseR s.nextId s2 h3
        rw [exec_bind, hc3]
        exact .err h1 hf2 h3 ⟨hfr.trans hk.1, hk.2.1, hsub⟩
      next hn =>
        rw [List.erase_of_not_mem (by simpa using hn)] at hsub
        exact .err h1 hf2 h3 ⟨hfr.trans hk.1, hk.2.1, hsub⟩
  · rw [exec_bind_err h]
    exact .err rfl hf rfl (Shrink.refl s)

/-! ### `_MergingIterator(paths)`: one cursor per file -/

/-- the step of the loop that opens the cursors; if one cannot be opened those before it are closed -/
def openStep (acc : List Cursor) (keys : List Nat) : M (List Cursor) :=
  tryCatch (do let c ← newCursor keys; pure (acc ++ [c]))
    (fun e => do swallowOS (closeCursors acc); throw e)

/-- the loop of `openStep` over the files `ls`, begun with the cursors `acc`, returned `cs`: they
    are `acc` followed by a cursor per file, and cover the open handles -/
def OpenQ (s : RState) (acc : List Cursor) (ls : List (List Nat)) (cs : List Cursor) (s' : RState) : Prop :=
  Fr s s' ∧ s'.merging = s.merging ∧ HInv s' ∧ Covered s'.handles cs ∧
    cs.map pending = acc.map pending ++ ls
/-- that loop raised: the cursors opened before have been closed again -/
def OpenE (s : RState) (s' : RState) : Prop :=
  Fr s s' ∧ s'.merging = s.merging ∧ s'.handles = []

theorem openAll_spec (ls : List (List Nat)) (acc : List Cursor) (s : RState) (hi : HInv s)
    (hc : Covered s.handles acc) :
    Outcome s (exec (ls.foldlM openStep acc) s) (OpenQ s acc ls) (OpenE s) := by
  induction ls generalizing acc s with
  | nil => exact .ok rfl rfl ⟨Fr.refl s, rfl, hi, hc, by simp⟩
  | cons keys ls ih =>
    have hstep : Outcome s (exec (openStep acc keys) s) (OpenQ s acc [keys]) (OpenE s) := by
      unfold openStep
      rw [exec_tryCatch, exec_bind]
      rcases (newCursor_spec keys s hi).cases with ⟨c, s1, hx, h1, h2, g1, g2, g3, g5, g6⟩ | ⟨s1, hx, h1, hf, h3, hk⟩
      · rw [hx]
        refine .ok h1 h2 ⟨g1, g2, g3, fun h hh => ?_, by simp [g5]⟩
        rcases g6 h hh with hh | hh
        · obtain ⟨c0, hc0, hc1⟩ := hc h hh
          exact ⟨c0, List.mem_append_left _ hc0, hc1⟩
        · exact ⟨c, by simp, hh⟩
      · rw [hx]
        simp only []
        obtain ⟨_, s2, k1, k2, k3, q⟩ := (closeCursors_spec acc s1 (hi.shrink hk)).ok_of_fired h3
        rw [exec_bind_ok (x := swallowOS _) (exec_tryCatch_ok k1)]
        exact .err (k2.trans h1) hf k3 ⟨hk.1.trans q.1.1, q.1.2.1.trans hk.2.1,
          q.handles_nil (hc.mono hk.2.2.subset)⟩
    rw [List.foldlM_cons]
    refine Outcome.bind hstep ?_
    rintro cs s1 ⟨g1, g2, g3, g4, g5⟩
    refine (ih cs s1 g3 g4).mono ?_ ?_
    · rintro cs' s' ⟨q1, q2, q3, q4, q5⟩
      exact ⟨g1.trans q1, q2.trans g2, q3, q4, by rw [q5, g5]; simp⟩
    · rintro s' ⟨q1, q2, q3⟩
      exact ⟨g1.trans q1, q2.trans g2, q3⟩

/-! ### the merge loop -/

/-- mark the registered cursors on handle `h` closed -/
def markClosed (h : Nat) (m : List Cursor) : List Cursor :=
  m.map (fun x => if x.handle = h then { x with closed := true } else x)

/-- `s_iter.next()` with the bookkeeping of a failing close at end of file -/
def advanceG (c : Cursor) : M Cursor :=
  tryCatch (advance c) (fun e => do
    let s ← get
    if !s.handles.contains c.handle then
      modify (fun s => { s with merging := s.merging.map (markClosed c.handle) })
    throw e)

theorem mergeLoop_succ (fuel : Nat) (limit : Option Nat) (cs : List Cursor) (out : List Nat) :
    mergeLoop (fuel + 1) limit cs out =
    (if limit == some out.length then pure (out, cs, true)
    else match minCursor cs with
      | none => pure (out, cs, false)
      | some i =>
        match cs[i]? with
        | none => pure (out, cs, false)
        | some c =>
          match c.peek with
          | none => pure (out, cs, false)
          | some k => do
            let c' ← advanceG c
            modify (fun s => { s with merging := s.merging.map (fun m => if m.map (·.handle) == cs.map (·.handle) then cs.set i c' else m) })
            mergeLoop fuel limit (cs.set i c') (out ++ [k])) := by
  rw [mergeLoop]
  rfl

theorem covered_mark {H : List Nat} {cs : List Cursor} {ch : Nat} (hc : Covered H cs) (hn : ch ∉ H) :
    Covered H (markClosed ch cs) := by
  intro h hh
  obtain ⟨c0, hc0, hc1, hc2⟩ := hc h hh
  refine ⟨c0, List.mem_map.2 ⟨c0, hc0, ?_⟩, hc1, hc2⟩
  have : c0.handle ≠ ch := by rw [hc1]; rintro rfl; exact hn hh
  simp [this]

/-- `advanceG` or `mergeLoop` raised: one list of cursors is registered, and it covers the open
    handles (so the `finally` clause of `iterate` can release them) -/
def MergeE (s : RState) (s' : RState) : Prop :=
  Fr s s' ∧ HInv s' ∧ ∃ cs', s'.merging = [cs'] ∧ Covered s'.handles cs'

theorem advanceG_spec (c : Cursor) (s : RState) (hi : HInv s) (cs : List Cursor) (hm : s.merging = [cs])
    (hcov : Covered s.handles cs) :
    Outcome s (exec (advanceG c) s) (AdvQ s c) (MergeE s) := by
  unfold advanceG
  rw [exec_tryCatch]
  rcases (advance_spec c s).cases with ⟨c', s1, hx, h1, h2, hq⟩ | ⟨s1, hx, h1, hf, h3, hk⟩
  · rw [hx]
    exact .ok h1 h2 hq
  · rw [hx]
    simp only []
    rw [exec_get_bind]
    have hcov1 := hcov.mono hk.2.2.subset
    have hi1 := hi.shrink hk
    split
    next hn =>
      rw [exec_modify_bind]
      refine .err h1 hf h3 ⟨hk.1, ⟨hi1.nd, hi1.lt⟩, markClosed c.handle cs, by simp [hk.2.1, hm], ?_⟩
      exact covered_mark hcov1 (by simpa using hn)
    next => exact .err h1 hf h3 ⟨hk.1, hi1, cs, hk.2.1.trans hm, hcov1⟩

theorem mem_set_of_ne {cs : List Cursor} {i : Nat} {c c' c0 : Cursor} (hc : cs[i]? = some c)
    (h0 : c0 ∈ cs) (hne : c0 ≠ c) : c0 ∈ cs.set i c' := by
  obtain ⟨j, hj⟩ := List.mem_iff_getElem?.1 h0
  refine List.mem_iff_getElem?.2 ⟨j, ?_⟩
  have hij : i ≠ j := by rintro rfl; rw [hj] at hc; exact hne (Option.some.inj hc)
  rw [List.getElem?_set_ne hij]; exact hj

/-- replacing cursor `c` by `c'` keeps the handles covered if `c'` takes over the handle of `c`
    where that is still open -/
theorem Covered.set {H H' : List Nat} {cs : List Cursor} {i : Nat} {c c' : Cursor} (hc : Covered H cs)
    (hci : cs[i]? = some c)
    (h' : ∀ h ∈ H', h ∈ H ∧ (c.handle = h → c.closed = false → c'.handle = h ∧ c'.closed = false)) :
    Covered H' (cs.set i c') := by
  intro h hh
  obtain ⟨c0, hc0, hc1, hc2⟩ := hc h (h' h hh).1
  by_cases he : c0 = c
  · subst he
    exact ⟨c', List.mem_iff_getElem?.2 ⟨i, by rw [List.getElem?_set_self (List.getElem?_eq_some_iff.1 hci).1]⟩,
      (h' h hh).2 hc1 hc2⟩
  · exact ⟨c0, mem_set_of_ne hci hc0 he, hc1, hc2⟩

/-- `mergeLoop fuel limit cs out` returned `r` = (keys emitted, cursors, abandoned): the cursors
    `r.2.1` are the registered copy and cover the open handles; and when the iteration is not
    limited and the fuel exceeds the number of pending keys, the merge invariant `MInv` has been
    carried to the end: every cursor is exhausted and the loop was not abandoned -/
def MergeQ (s : RState) (cs : List Cursor) (out : List Nat) (fuel : Nat) (limit : Option Nat)
    (r : List Nat × List Cursor × Bool) (s' : RState) : Prop :=
  Fr s s' ∧ HInv s' ∧ s'.merging = [r.2.1] ∧ Covered s'.handles r.2.1 ∧
    (∀ all, MInv all cs out → limit = none → (cs.flatMap pending).length < fuel →
      MInv all r.2.1 r.1 ∧ r.2.1.flatMap pending = [] ∧ r.2.2 = false)

theorem mergeLoop_spec (fuel : Nat) (limit : Option Nat) (cs : List Cursor) (out : List Nat) (s : RState)
    (hi : HInv s) (hm : s.merging = [cs]) (hcov : Covered s.handles cs) :
    Outcome s (exec (mergeLoop fuel limit cs out) s) (MergeQ s cs out fuel limit) (MergeE s) := by
  induction fuel generalizing cs out s with
  | zero =>
    rw [mergeLoop]
    exact .ok rfl rfl ⟨Fr.refl s, hi, hm, hcov, fun all _ _ h => absurd h (Nat.not_lt_zero _)⟩
  | succ fuel ih =>
    rw [mergeLoop_succ]
    split
    next hl =>
      refine .ok rfl rfl ⟨Fr.refl s, hi, hm, hcov, fun all _ hn _ => ?_⟩
      subst hn; simp at hl
    next =>
      cases hmin : minCursor cs with
      | none =>
        exact .ok rfl rfl ⟨Fr.refl s, hi, hm, hcov, fun all h _ _ => ⟨h, minCursor_none hmin, rfl⟩⟩
      | some i =>
        obtain ⟨c, k, hci, hck, _⟩ := minCursor_some hmin
        simp only [hci, hck]
        refine Outcome.bind (advanceG_spec c s hi cs hm hcov) ?_
        rintro c' s1 ⟨g1, g4⟩
        rw [exec_modify_bind]
        have hmerge : (List.map (fun m => if (List.map (fun x => x.handle) m == List.map (fun x => x.handle) cs) = true
            then cs.set i c' else m) s1.merging) = [cs.set i c'] := by
          rw [g1.2.1, hm]; simp
        rw [hmerge]
        -- the cursor that has been advanced keeps its handle, unless the handle has been released
        have hcov1 : Covered s1.handles (cs.set i c') := hcov.set hci fun h hh => by
          rcases g4 with ⟨k', ks, _, rfl, hH⟩ | ⟨_, rfl, hH⟩
          · exact ⟨hH ▸ hh, fun e hcl => ⟨e, hcl⟩⟩
          · rw [hH, hi.nd.mem_erase_iff] at hh
            exact ⟨hh.2, fun e => absurd e.symm hh.1⟩
        have hi1 := hi.shrink g1
        refine Outcome.mono (ih (cs.set i c') (out ++ [k]) _ ⟨hi1.nd, hi1.lt⟩ rfl hcov1) ?_ ?_
        · rintro r s' ⟨q1, q2, q3, q4, q5⟩
          refine ⟨g1.1.trans q1, q2, q3, q4, fun all hall hn hlen => ?_⟩
          have hstep : MInv all (cs.set i c') (out ++ [k]) ∧
              ((cs.set i c').flatMap pending).length + 1 = (cs.flatMap pending).length := by
            apply hall.step hmin hci
            rcases g4 with ⟨k', ks, hr, rfl, _⟩ | ⟨hr, rfl, _⟩ <;> simp [pending, hck, hr]
          exact q5 all hstep.1 hn (by omega)
        · rintro s' ⟨q1, q2, q3⟩
          exact ⟨g1.1.trans q1, q2, q3⟩

/-! ### `iter(sorter)` -/

/-- every open handle belongs to a registered cursor that is not marked closed
    (`Covered s.handles` of the cursors of all registered iterations together) -/
def Cov (s : RState) : Prop :=
  ∀ h ∈ s.handles, ∃ cs ∈ s.merging, ∃ c ∈ cs, c.handle = h ∧ c.closed = false

theorem Cov.of_nil {s : RState} (h : s.handles = []) : Cov s := fun x hx => by rw [h] at hx; cases hx

/-- after `iterTail`, returned or raised: what `IterOk` says, with `Fr` in the place of `WF` -/
def IterE (s : RState) (s' : RState) : Prop := Fr s s' ∧ HInv s' ∧ Cov s'

theorem IterE.of_nil {s s' : RState} (f : Fr s s') (h : s'.handles = []) : IterE s s' :=
  ⟨f, .of_nil h, .of_nil h⟩

/-- `iterate` from the merge loop on -/
def iterTail (limit : Option Nat) (cs : List Cursor) (total : Nat) : M (List Nat) := do
  let r ← tryCatch (mergeLoop (total + 1) limit cs []) (fun e => do
        let s ← get
        let cur := (s.merging.getLast?).getD cs
        modify (fun s => { s with merging := s.merging.dropLast })
        tryCatch (closeCursors cur) (fun _ => pure ())
        throw e)
  let (out, cs', abandoned) := r
  if abandoned then return out
  else
    modify (fun s => { s with merging := s.merging.dropLast })
    closeCursors cs'
    return out

theorem iterate_eq (limit : Option Nat) : iterate limit = (do
    let s ← get
    if !s.paths.isEmpty || s.alwaysSpill then
      spill
      let s ← get
      let files := s.paths.map (fun p => ((s.contents.find? (fun q => q.1 == p)).map (·.2)).getD [])
      let cs ← files.foldlM openStep []
      modify (fun s => { s with merging := s.merging ++ [cs] })
      iterTail limit cs (files.map List.length).sum
    else
      let out := s.stash.mergeSort (fun a b => a ≤ b)
      return match limit with
        | some j => out.take j
        | none => out) := rfl

theorem iterTail_spec (limit : Option Nat) (cs : List Cursor) (total : Nat) (s : RState)
    (hi : HInv s) (hm : s.merging = [cs]) (hcov : Covered s.handles cs) :
    Outcome s (exec (iterTail limit cs total) s)
      (fun out s' => IterE s s' ∧ ∀ all, MInv all cs [] → limit = none →
        (cs.flatMap pending).length ≤ total → out = all.mergeSort (fun a b => a ≤ b))
      (IterE s) := by
  unfold iterTail
  rw [exec_bind, exec_tryCatch]
  rcases (mergeLoop_spec (total + 1) limit cs [] s hi hm hcov).cases with
    ⟨⟨out, cs', ab⟩, s1, hx, h1, h2, g1, g2, g3, g4, g5⟩ | ⟨s1, hx, h1, hf, h3, g1, g2, cs', g3, g4⟩
  · rw [hx]
    simp only [] at g3 g4 g5 ⊢
    cases ab with
    | true =>
      simp only [if_true, exec_pure]
      refine .ok h1 h2 ⟨⟨g1, g2, fun h hh => ⟨cs', by rw [g3]; simp, g4 h hh⟩⟩, fun all hall hn hlen => ?_⟩
      cases (g5 all hall hn (by omega)).2.2
    | false =>
      simp only [Bool.false_eq_true, if_false]
      rw [exec_modify_bind]
      -- exhaustion: closing the cursors releases every handle
      have hfin : ∀ s', CloseQ { s1 with merging := s1.merging.dropLast } cs' s' → IterE s s' :=
        fun s' q => .of_nil (g1.trans q.1.1) (q.handles_nil g4)
      refine Outcome.rebase (Outcome.bind
        (Outcome.mono (closeCursors_spec cs' _ ⟨g2.nd, g2.lt⟩) (fun _ _ h => h) hfin) fun _ s2 q => ?_) h1 h2
      refine .ok rfl rfl ⟨hfin s2 q, fun all hall hn hlen => ?_⟩
      obtain ⟨m1, m2, _⟩ := g5 all hall hn (by omega)
      exact m1.final m2
  · rw [hx]
    simp only []
    -- the `finally` clause finds the cursors in the registered copy and closes them
    rw [exec_get_bind, exec_modify_bind]
    have hcur : (s1.merging.getLast?).getD cs = cs' := by rw [g3]; rfl
    rw [hcur]
    obtain ⟨_, s2, k1, k2, k3, q⟩ :=
      (closeCursors_spec cs' { s1 with merging := s1.merging.dropLast } ⟨g2.nd, g2.lt⟩).ok_of_fired h3
    rw [exec_bind_ok (exec_tryCatch_ok k1), exec_throw]
    exact .err (k2.trans h1) hf k3 (.of_nil (g1.trans q.1.1) (q.handles_nil g4))

theorem lookup_files (contents : List (Nat × List Nat)) (hnd : (contents.map (·.1)).Nodup) :
    (contents.map (·.1)).map (fun p => ((contents.find? (fun q => q.1 == p)).map (·.2)).getD []) =
      contents.map (·.2) := by
  induction contents with
  | nil => rfl
  | cons a l ih =>
    rw [List.map_cons, List.nodup_cons] at hnd
    simp only [List.map_cons, List.find?_cons_of_pos, beq_self_eq_true, Option.map_some, Option.getD_some,
      List.cons.injEq, true_and]
    rw [← ih hnd.2]
    apply List.map_congr_left
    intro p hp
    have : (a.1 == p) = false := by
      rw [beq_eq_false_iff_ne]; rintro rfl; exact hnd.1 hp
    rw [List.find?_cons_of_neg (by simp [this])]

/-- what holds of the state after `iter(sorter)`, whether it returned or raised -/
def IterOk (s' : RState) : Prop := WF s' ∧ HInv s' ∧ Cov s'

theorem IterOk.of_nil {s : RState} (hw : WF s) (h : s.handles = []) : IterOk s := ⟨hw, .of_nil h, .of_nil h⟩

theorem iterate_spec (limit : Option Nat) (s : RState) (hw : WF s) (hh : s.handles = [])
    (hm : s.merging = []) :
    Outcome s (exec (iterate limit) s)
      (fun out s' => IterOk s' ∧ ∀ all, DInv s all → limit = none → out = all.mergeSort (fun a b => a ≤ b))
      IterOk := by
  rw [iterate_eq, exec_get_bind]
  split
  · refine Outcome.bind ((spill_spec s hw hh).mono (fun _ _ h => h) fun _ g => .of_nil g.1 g.2.1) ?_
    rintro _ s1 ⟨⟨g1, g2, g3⟩, g4, g5⟩
    rw [exec_get_bind]
    have hopen := openAll_spec
      (s1.paths.map (fun p => ((s1.contents.find? (fun q => q.1 == p)).map (·.2)).getD [])) [] s1 (.of_nil g2)
      (by rw [g2]; intro h hh; cases hh)
    refine Outcome.bind (hopen.mono (fun _ _ h => h) fun _ q => .of_nil (g1.fr q.1) q.2.2) ?_
    rintro cs s2 ⟨q1, q2, q3, q4, q5⟩
    rw [exec_modify_bind]
    have hm2 : s2.merging ++ [cs] = [cs] := by rw [q2, g3, hm]; rfl
    rw [hm2]
    refine Outcome.mono (Outcome.rebase (iterTail_spec limit cs _ _ ⟨q3.nd, q3.lt⟩ rfl q4) rfl rfl) ?_ ?_
    · rintro out s' ⟨⟨k1, k2, k3⟩, k4⟩
      refine ⟨⟨g1.fr (q1.trans k1), k2, k3⟩, fun all hd hn => ?_⟩
      have hd1 := g5 all hd
      have hfiles : s1.paths.map (fun p => ((s1.contents.find? (fun q => q.1 == p)).map (·.2)).getD []) =
          s1.contents.map (·.2) := by
        have := lookup_files s1.contents (by rw [hd1.keys]; exact g1.pathsNd)
        rwa [hd1.keys] at this
      rw [hfiles] at q5 k4
      have hinit : MInv (s1.contents.map (·.2)).flatten cs [] :=
        MInv.init (fun l hl => by obtain ⟨p, hp, rfl⟩ := List.mem_map.1 hl; exact hd1.sorted p hp) q5
      rw [k4 _ hinit hn (by rw [List.flatMap_def, q5, List.length_flatten]; exact Nat.le_refl _)]
      apply mergeSort_perm_eq
      have hp := hd1.perm
      rwa [g4, List.append_nil, List.flatMap_def] at hp
    · rintro s' ⟨k1, k2, k3⟩
      exact ⟨g1.fr (q1.trans k1), k2, k3⟩
  next hc =>
    refine .ok rfl rfl ⟨.of_nil hw hh, fun all hd hn => ?_⟩
    subst hn
    apply mergeSort_perm_eq
    have hp : s.paths = [] := by
      simp only [Bool.or_eq_true, Bool.not_eq_true', not_or, Bool.not_eq_true] at hc
      simpa using hc.1
    have hcn : s.contents = [] := by
      have := hd.keys; rw [hp] at this; simpa using this
    have := hd.perm
    rw [hcn] at this
    simpa using this

end ResourceLemmas
