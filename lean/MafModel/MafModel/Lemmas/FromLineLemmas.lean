/-
  `MafRecord.from_line` against a pure specification: one round of the loop over the fields
  (`fromLineStep_eq`), the loop for any description of what each round stores (`fromLine_loop_gen`,
  `loopRec`), its instance for schemes of custom classes (`specRec`), then the final `validate`.
  `Props/C01Record.lean` states the record-level theorems of C01 on it; `FromLineAccept`,
  `WriterLemmas` and `CloseLemmas` (C06) build on the same lemmas.
-/
import MafModel.Lemmas.RecordLemmas
open Py
namespace Model

/-! ### the loop body of `from_line`, named (tied to the model by `rfl`) -/

def fromLineStep (C : Ctx) (scheme : Option Scheme) (lineNo : Option Nat)
    (acc : Except PyErr (Record × Nat)) (nv : Text × Text) : Except PyErr (Record × Nat) :=
  match acc with
  | .error e => .error e
  | .ok (r, i) =>
    let (name, value) := nv
    let built : Except Unit Column :=
      match (scheme.filter Scheme.truthy).bind (fun s => s.columnClass (String.ofList name)) with
      | none => .ok { cls := "MafColumnRecord", key := name, value := .atom (.str value), index := some (i : Int) }
      | some cls =>
        match buildColumn C cls name value (some (i : Int)) with
        | .ok c => .ok c
        | .error _ => .error ()
    match built with
    | .error () =>
      .ok ({ r with errors := r.errors ++ [{ tpe := "RECORD_INVALID_COLUMN_VALUE", line := lineNo, origin := lineNo }] }, i + 1)
    | .ok col =>
      let errs := (col.validate C scheme lineNo).map (fun e => { e with origin := lineNo })
      let r1 := { r with errors := r.errors ++ errs }
      if errs.isEmpty then
        match r1.setItem (.name name) { oid := i, col := col } with
        | (r2, .ok ()) => .ok (r2, i + 1)
        | (_, .error e) => .error e
      else .ok (r1, i + 1)

theorem fromLine_eq (C : Ctx) (line : Text) (S : Scheme) (lineNo : Option Nat) (mode : Option Mode) :
    Record.fromLine C line none (some S) lineNo mode =
      let r0 : Record := { line := lineNo, mode := modeOrSilent mode }
      let names := S.names.map String.toList
      let values := splitOn '\t' (rstripCRLF line)
      if names.length ≠ values.length then
        let r1 := { r0 with errors := [{ tpe := "RECORD_MISMATCH_NUMBER_OF_COLUMNS", line := lineNo, origin := lineNo }] }
        match r1.validate C none false none with
        | (r2, .ok logs) => .ok (r2, logs)
        | (_, .error e) => .error e
      else
        match (names.zip values).foldl (fromLineStep C (some S) lineNo) (.ok (r0, 0)) with
        | .error e => .error e
        | .ok (r, _) =>
          match r.validate C none false none with
          | (r2, .ok logs) => .ok (r2, logs)
          | (_, .error e) => .error e := rfl

/-! ### scheme lookups by a name of the scheme -/

theorem find?_of_nodup {cols : List (String × String)} (hnd : (cols.map (·.1)).Nodup)
    {i : Nat} {p : String × String} (hp : cols[i]? = some p) :
    cols.find? (fun q => q.1 == p.1) = some p ∧ cols.findIdx (fun q => q.1 == p.1) = i := by
  induction cols generalizing i with
  | nil => simp at hp
  | cons q cols ih =>
    simp only [List.map_cons, List.nodup_cons] at hnd
    cases i with
    | zero =>
      simp only [List.getElem?_cons_zero, Option.some.injEq] at hp
      subst hp
      simp [List.findIdx_cons]
    | succ i =>
      simp only [List.getElem?_cons_succ] at hp
      have hne : ¬ q.1 = p.1 := by
        intro e
        exact hnd.1 (e ▸ List.mem_map_of_mem (f := (·.1)) (List.mem_of_getElem? hp))
      have := ih hnd.2 hp
      have hb : (q.1 == p.1) = false := by simp [hne]
      simp [List.findIdx_cons, hb, this.1, this.2]

theorem Scheme.columnClass_of_getElem? {S : Scheme} (hnd : S.names.Nodup) {i : Nat}
    {n cls : String} (hp : S.cols[i]? = some (n, cls)) : S.columnClass n = some cls := by
  unfold Scheme.columnClass
  rw [(find?_of_nodup hnd hp).1]; rfl

theorem Scheme.columnIndex_of_getElem? {S : Scheme} (hnd : S.names.Nodup) {i : Nat}
    {n cls : String} (hp : S.cols[i]? = some (n, cls)) : S.columnIndex n = some i := by
  unfold Scheme.columnIndex
  simp only [(find?_of_nodup hnd hp).2, (List.getElem?_eq_some_iff.1 hp).1, if_true]

/-- is a plain `MafColumnRecord` an instance of the scheme class `cls`?  (the second argument
    of `ColSpec.accept`): only when the scheme class is `MafColumnRecord` itself -/
def plainOk (cls : String) : Bool := cls == "MafColumnRecord"

theorem buildValue_custom_cases (C : Ctx) (sp : ColSpec) (f : Text)
    (hb : sp.buildMethod = some "MafCustomColumnRecord") :
    (∃ v, sp.buildValue C f = .ok (.inl v)) ∨ (∃ e, sp.buildValue C f = .error e) := by
  simp only [ColSpec.buildValue, hb]
  cases sp.nullDict.bind (fun d => List.find? (fun p => p.1.toList == f) d) with
  | some p => exact Or.inl ⟨_, rfl⟩
  | none =>
    simp only []
    cases runBuild C sp f with
    | ok v => exact Or.inl ⟨_, rfl⟩
    | error e => exact Or.inr ⟨_, rfl⟩

/-- the error `from_line` records for a rejected field -/
def fieldErr (C : Ctx) (sp : ColSpec) (lineNo : Option Nat) (f : Text) : VErr :=
  match sp.buildValue C f with
  | .error _ => { tpe := "RECORD_INVALID_COLUMN_VALUE", line := lineNo, origin := lineNo }
  | .ok _ => { tpe := "RECORD_COLUMN_WRONG_FORMAT", line := lineNo, origin := lineNo }

/-- the column `from_line` stores for an accepted field -/
def fieldCol (i : Nat) (n cls : String) (v : PyVal) : RCol :=
  { oid := i, col := { cls := cls, key := n.toList, value := v, index := some (i : Int) } }

/-- what `from_line` asks of the class `cls` of a scheme column: a custom column type (it inherits
    `MafCustomColumnRecord.build`), or the unrestricted base class `MafColumnRecord` -/
def ClassKind (cls : String) (sp : ColSpec) : Prop :=
  sp.buildMethod = some "MafCustomColumnRecord" ∨
    (cls = "MafColumnRecord" ∧ sp.buildMethod = some "MafColumnRecord" ∧
      sp.validateMethod ≠ some "MafCustomColumnRecord")

theorem fromLineStep_eq {C : Ctx} {S : Scheme} (hnd : S.names.Nodup) (hpos : S.size > 0)
    (lineNo : Option Nat) (r : Record) {i : Nat} {n cls : String} {sp : ColSpec} (f : Text)
    (hp : S.cols[i]? = some (n, cls)) (hsp : resolveSpec C.tbl cls = some sp)
    (hsub : isSubclass C cls cls = true) (hkind : ClassKind cls sp) :
    fromLineStep C (some S) lineNo (.ok (r, i)) (n.toList, f) =
      match sp.accept C (plainOk cls) f with
      | some v =>
        (match r.setItem (.name n.toList) (fieldCol i n cls v) with
         | (r2, .ok ()) => .ok (r2, i + 1)
         | (_, .error e) => .error e)
      | none => .ok ({ r with errors := r.errors ++ [fieldErr C sp lineNo f] }, i + 1) := by
  have hfil : (some S).filter Scheme.truthy = some S := by
    simp [Option.filter, Scheme.truthy, hpos]
  have hcc := Scheme.columnClass_of_getElem? hnd hp
  have hci := Scheme.columnIndex_of_getElem? hnd hp
  -- a column of class `cls` at position `i` under the name `n` fits the scheme
  have hsch (v : PyVal) : Column.schemeErrors C { cls := cls, key := n.toList, value := v, index := some (i : Int) }
      (some S) lineNo = [] := by
    simp [Column.schemeErrors, hfil, String.ofList_toList, hcc, hci, hsub]
  unfold fromLineStep
  simp only [hfil, Option.bind_some, String.ofList_toList, hcc, buildColumn, hsp, ColSpec.accept, fieldErr]
  cases hb : sp.buildValue C f with
  | error e => rfl
  | ok o =>
    cases o with
    | inl v =>
      simp only [Column.validate, Column.valueInvalid, hsp, hsch, List.append_nil]
      cases sp.valueInvalid v <;> simp [fieldCol]
    | inr u =>
      rcases hkind with hcust | ⟨rfl, _, hval⟩
      · rcases buildValue_custom_cases C sp f hcust with ⟨v', hv'⟩ | ⟨e, he⟩
        · rw [hv'] at hb; cases hb
        · rw [he] at hb; cases hb
      · have : sp.valueInvalid (.atom (.str f)) = false := by
          unfold ColSpec.valueInvalid; split
          · next heq => exact absurd heq hval
          · rfl
        simp [Column.validate, Column.valueInvalid, hsp, hsch, this, plainOk, fieldCol]

theorem setItem_name_fresh (r : Record) (x : RCol) (n : Nat)
    (hfresh : tdictGet r.dict x.col.key = none) (hidx : x.col.index = some (n : Int))
    (hlen : r.slots.length ≤ n) :
    r.setItem (.name x.col.key) x =
      ({ r with dict := r.dict ++ [(x.col.key, x)], slots := setSlot r.slots n x }, .ok ()) := by
  have hset : tdictSet r.dict x.col.key x = r.dict ++ [(x.col.key, x)] :=
    if_neg (mt (any_key_iff _ _).1 (tdictGet_eq_none_iff.1 hfresh))
  have h0 : ¬ ((n : Int) < 0) := by omega
  simp only [Record.setItem, ne_eq, not_true_eq_false, if_false, hfresh, hidx, h0,
    List.getD_eq_getElem?_getD, Int.toNat_natCast, List.getElem?_eq_none hlen, Option.getD_none, hset,
    listSetPy_pad]

/-! ### the loop of `from_line` -/

/-- the record after `k` rounds of a loop that at position `i` stores the column `col i`, or else
    records the errors `err i` -/
def loopRec (col : Nat → Option RCol) (err : Nat → List VErr) (lineNo : Option Nat) (m : Mode)
    (k : Nat) : Record :=
  { dict := ((List.range k).map col).filterMap (fun o => o.map (fun c => (c.col.key, c)))
    slots := trimNone ((List.range k).map col)
    errors := (List.range k).flatMap err
    line := lineNo
    mode := m }

section
variable {col : Nat → Option RCol} {err : Nat → List VErr} {lineNo : Option Nat} {m : Mode} {k : Nat}

theorem loopRec_dict_name {q : Text × RCol} (hq : q ∈ (loopRec col err lineNo m k).dict) :
    ∃ j, j < k ∧ col j = some q.2 ∧ q.1 = q.2.col.key := by
  simp only [loopRec, List.mem_filterMap, List.mem_map, List.mem_range] at hq
  obtain ⟨_, ⟨j, hj, rfl⟩, hoq⟩ := hq
  obtain ⟨c, hc, rfl⟩ := Option.map_eq_some_iff.1 hoq
  exact ⟨j, hj, hc, rfl⟩

theorem loopRec_slot_mem {o : Option RCol} (ho : o ∈ (loopRec col err lineNo m k).slots) :
    ∃ j, j < k ∧ col j = o := by
  simpa only [List.mem_map, List.mem_range] using mem_trimNone ho

end

theorem Scheme.name_inj {S : Scheme} (hnd : S.names.Nodup) {i j : Nat} {p q : String × String}
    (hp : S.cols[i]? = some p) (hq : S.cols[j]? = some q) (he : p.1 = q.1) : i = j := by
  have hi : i < S.names.length := by
    simpa [Scheme.names] using (List.getElem?_eq_some_iff.1 hp).1
  refine (List.getElem?_inj hi hnd).1 ?_
  simp [Scheme.names, List.getElem?_map, hp, hq, he]

/-- The loop over the columns of `S`, when round `i` behaves as `col i` and `err i` say: after `k` rounds
    the record is `loopRec … k`, and it is coherent - every stored column goes, under a fresh name,
    to the slot just behind those filled so far. -/
theorem fromLine_loop_gen {C : Ctx} {S : Scheme} (hnd : S.names.Nodup) {fields : List Text}
    (hlen : fields.length = S.size) {lineNo : Option Nat}
    {col : Nat → Option RCol} {err : Nat → List VErr}
    (hstep : ∀ {i n cls f} (r : Record), S.cols[i]? = some (n, cls) → fields[i]? = some f →
      fromLineStep C (some S) lineNo (.ok (r, i)) (n.toList, f) =
        match col i with
        | some c => (match r.setItem (.name n.toList) c with
                     | (r2, .ok ()) => .ok (r2, i + 1)
                     | (_, .error e) => .error e)
        | none => .ok ({ r with errors := r.errors ++ err i }, i + 1))
    (hcol : ∀ {i n cls c}, S.cols[i]? = some (n, cls) → col i = some c →
      c.col.key = n.toList ∧ c.col.index = some (i : Int) ∧ err i = [])
    (m : Mode) (k : Nat) (hk : k ≤ S.size) :
    (((S.names.map String.toList).zip fields).take k).foldl (fromLineStep C (some S) lineNo)
        (.ok ({ line := lineNo, mode := m }, 0)) = .ok (loopRec col err lineNo m k, k)
      ∧ (loopRec col err lineNo m k).Inv := by
  induction k with
  | zero => exact ⟨rfl, Record.Inv.init.of_eq rfl rfl⟩
  | succ k ih =>
    obtain ⟨ih1, ih2⟩ := ih (by omega)
    have hk' : k < S.cols.length := hk
    obtain ⟨⟨n, cls⟩, hp⟩ : ∃ p, S.cols[k]? = some p := ⟨_, List.getElem?_eq_getElem hk'⟩
    obtain ⟨f, hf⟩ : ∃ f, fields[k]? = some f := ⟨_, List.getElem?_eq_getElem (hlen ▸ hk')⟩
    have hz : ((S.names.map String.toList).zip fields)[k]? = some (n.toList, f) := by
      rw [List.getElem?_zip_eq_some]
      simp [Scheme.names, List.getElem?_map, hp, hf]
    rw [List.take_add_one, List.foldl_append, ih1, hz]
    simp only [Option.toList_some, List.foldl_cons, List.foldl_nil]
    rw [hstep _ hp hf]
    cases hc : col k with
    | none =>
      have he : loopRec col err lineNo m (k + 1) =
          { loopRec col err lineNo m k with errors := (loopRec col err lineNo m k).errors ++ err k } := by
        simp [loopRec, List.range_succ, hc, trimNone_append_none]
      exact ⟨by rw [he], ih2.of_eq (by rw [he]) (by rw [he])⟩
    | some c =>
      obtain ⟨hkey, hidx, herr⟩ := hcol hp hc
      -- the name is fresh: the columns stored so far carry the names of the earlier positions
      have hfresh : tdictGet (loopRec col err lineNo m k).dict c.col.key = none := by
        rw [tdictGet_eq_none_iff, List.mem_map]
        rintro ⟨q, hq, hqk⟩
        obtain ⟨j, hj, hcj, hqn⟩ := loopRec_dict_name hq
        obtain ⟨⟨n', cls'⟩, hp'⟩ : ∃ p, S.cols[j]? = some p := ⟨_, List.getElem?_eq_getElem (by omega)⟩
        have : n'.toList = n.toList := by rw [← (hcol hp' hcj).1, ← hqn, hqk, hkey]
        have := Scheme.name_inj hnd hp' hp (String.toList_inj.1 this)
        omega
      have hsl : (loopRec col err lineNo m k).slots.length ≤ k := by
        have := trimNone_length_le ((List.range k).map col)
        rwa [List.length_map, List.length_range] at this
      have he : loopRec col err lineNo m (k + 1) =
          { loopRec col err lineNo m k with
            dict := (loopRec col err lineNo m k).dict ++ [(c.col.key, c)],
            slots := setSlot (loopRec col err lineNo m k).slots k c } := by
        have := setSlot_trimNone ((List.range k).map col) c
        rw [List.length_map, List.length_range] at this
        simp [loopRec, List.range_succ, hc, herr, trimNone_append_some, this]
      have hset := setItem_name_fresh (loopRec col err lineNo m k) c k hfresh hidx hsl
      rw [← he, hkey] at hset
      have hinv := ih2.setItem (.name n.toList) c
      rw [hset] at hinv
      dsimp only
      rw [hset]
      exact ⟨rfl, hinv⟩

/-! ### the specification of `from_line` -/

/-- the hypotheses on the scheme of the record-level theorems -/
structure SchemeOK (C : Ctx) (S : Scheme) : Prop where
  nodup : S.names.Nodup
  pos : S.size > 0
  cls_ok : ∀ p ∈ S.cols, ∃ sp, resolveSpec C.tbl p.2 = some sp ∧
    sp.buildMethod = some "MafCustomColumnRecord" ∧ isSubclass C p.2 p.2 = true

/-- position `i`: the stored column, if the field is accepted -/
def colAt (C : Ctx) (S : Scheme) (fields : List Text) (i : Nat) : Option RCol :=
  match S.cols[i]?, fields[i]? with
  | some p, some f =>
    match resolveSpec C.tbl p.2 with
    | some sp => (sp.accept C false f).map (fieldCol i p.1 p.2)
    | none => none
  | _, _ => none

/-- position `i`: the recorded error, if the field is rejected -/
def errAt (C : Ctx) (S : Scheme) (fields : List Text) (lineNo : Option Nat) (i : Nat) : List VErr :=
  match S.cols[i]?, fields[i]? with
  | some p, some f =>
    match resolveSpec C.tbl p.2 with
    | some sp => match sp.accept C false f with
      | some _ => []
      | none => [fieldErr C sp lineNo f]
    | none => []
  | _, _ => []

theorem colAt_eq {C : Ctx} {S : Scheme} {fields : List Text} {i : Nat} {n cls : String}
    {sp : ColSpec} {f : Text} (hp : S.cols[i]? = some (n, cls)) (hf : fields[i]? = some f)
    (hsp : resolveSpec C.tbl cls = some sp) :
    colAt C S fields i = (sp.accept C false f).map (fieldCol i n cls) := by
  simp [colAt, hp, hf, hsp]

theorem errAt_eq {C : Ctx} {S : Scheme} {fields : List Text} {lineNo : Option Nat} {i : Nat}
    {n cls : String} {sp : ColSpec} {f : Text} (hp : S.cols[i]? = some (n, cls))
    (hf : fields[i]? = some f) (hsp : resolveSpec C.tbl cls = some sp) :
    errAt C S fields lineNo i =
      match sp.accept C false f with
      | some _ => []
      | none => [fieldErr C sp lineNo f] := by
  simp [errAt, hp, hf, hsp]

theorem colAt_some {C : Ctx} {S : Scheme} {fields : List Text} {i : Nat} {c : RCol}
    (h : colAt C S fields i = some c) :
    ∃ n cls sp f v, S.cols[i]? = some (n, cls) ∧ fields[i]? = some f ∧
      resolveSpec C.tbl cls = some sp ∧ sp.accept C false f = some v ∧ c = fieldCol i n cls v := by
  unfold colAt at h
  split at h
  · next p f hp hf =>
    split at h
    · next sp hsp =>
      obtain ⟨v, ha, hc⟩ := Option.map_eq_some_iff.1 h
      exact ⟨p.1, p.2, sp, f, v, hp, hf, hsp, ha, hc.symm⟩
    · cases h
  · cases h

def specCols (C : Ctx) (S : Scheme) (fields : List Text) (k : Nat) : List (Option RCol) :=
  (List.range k).map (colAt C S fields)

/-- the record after the first `k` fields -/
def specRec (C : Ctx) (S : Scheme) (fields : List Text) (lineNo : Option Nat) (m : Mode)
    (k : Nat) : Record :=
  { dict := (specCols C S fields k).filterMap (fun o => o.map (fun c => (c.col.key, c)))
    slots := trimNone (specCols C S fields k)
    errors := (List.range k).flatMap (errAt C S fields lineNo)
    line := lineNo
    mode := m }

theorem specRec_eq_loopRec (C : Ctx) (S : Scheme) (fields : List Text) (lineNo : Option Nat) (m : Mode)
    (k : Nat) :
    specRec C S fields lineNo m k = loopRec (colAt C S fields) (errAt C S fields lineNo) lineNo m k :=
  rfl

theorem specCols_length (C : Ctx) (S : Scheme) (fields : List Text) (k : Nat) :
    (specCols C S fields k).length = k := by simp [specCols]

theorem specCols_getElem? (C : Ctx) (S : Scheme) (fields : List Text) (k i : Nat) (hi : i < k) :
    (specCols C S fields k)[i]? = some (colAt C S fields i) := by
  simp [specCols, List.getElem?_map, List.getElem?_range hi]

theorem specRec_dict_name {C : Ctx} {S : Scheme} {fields : List Text} {lineNo : Option Nat}
    {m : Mode} {k : Nat} {q : Text × RCol} (hq : q ∈ (specRec C S fields lineNo m k).dict) :
    ∃ j, j < k ∧ colAt C S fields j = some q.2 ∧ q.1 = q.2.col.key :=
  loopRec_dict_name (specRec_eq_loopRec .. ▸ hq)

/-- with custom classes only, it does not matter whether a plain `MafColumnRecord` would do -/
theorem accept_of_custom {C : Ctx} {sp : ColSpec} (hb : sp.buildMethod = some "MafCustomColumnRecord")
    (b : Bool) (f : Text) : sp.accept C b f = sp.accept C false f := by
  unfold ColSpec.accept
  rcases buildValue_custom_cases C sp f hb with ⟨v, hv⟩ | ⟨e, he⟩
  · rw [hv]
  · rw [he]

theorem fromLine_loop {C : Ctx} {S : Scheme} (hS : SchemeOK C S) (fields : List Text)
    (hlen : fields.length = S.size) (lineNo : Option Nat) (m : Mode) (k : Nat) (hk : k ≤ S.size) :
    (((S.names.map String.toList).zip fields).take k).foldl (fromLineStep C (some S) lineNo)
        (.ok ({ line := lineNo, mode := m }, 0)) = .ok (specRec C S fields lineNo m k, k)
      ∧ (specRec C S fields lineNo m k).Inv := by
  rw [specRec_eq_loopRec]
  refine fromLine_loop_gen hS.nodup hlen ?_ ?_ m k hk
  · intro i n cls f r hp hf
    obtain ⟨sp, hsp, hb, hsub⟩ := hS.cls_ok _ (List.mem_of_getElem? hp)
    rw [fromLineStep_eq hS.nodup hS.pos lineNo r f hp hsp hsub (Or.inl hb), accept_of_custom hb,
      colAt_eq hp hf hsp]
    cases ha : sp.accept C false f <;> simp [errAt_eq hp hf hsp, ha]
  · intro i n cls c hp hc
    obtain ⟨n', cls', sp, f, v, hp', hf, hsp, ha, rfl⟩ := colAt_some hc
    cases hp.symm.trans hp'
    exact ⟨rfl, rfl, by rw [errAt_eq hp hf hsp, ha]⟩

/-! ### the final `validate` -/

/-- one RECORD_COLUMN_WITH_NO_VALUE per empty slot -/
def noValueErrs (lineNo : Option Nat) (slots : List (Option RCol)) : List VErr :=
  slots.flatMap (fun s => match s with
    | none => [{ tpe := "RECORD_COLUMN_WITH_NO_VALUE", line := lineNo }]
    | some _ => [])

theorem noValueErrs_eq_nil_iff (lineNo : Option Nat) (slots : List (Option RCol)) :
    noValueErrs lineNo slots = [] ↔ none ∉ slots := by
  simp only [noValueErrs, List.flatMap_eq_nil_iff]
  constructor
  · intro h hn; cases h _ hn
  · intro h o ho
    cases o with
    | none => exact absurd ho h
    | some _ => rfl

/-- `validate(scheme=None)` on a coherent record whose stored columns are all valid -/
theorem validate_spec (C : Ctx) (r : Record) (hinv : r.Inv)
    (hvalid : ∀ c, some c ∈ r.slots → c.col.validate C none none = []) :
    r.validate C none false none =
      ({ r with errors := r.errors ++ noValueErrs r.line r.slots },
       processErrors r.mode (r.errors ++ noValueErrs r.line r.slots)) := by
  unfold Record.validate
  simp only [Bool.false_eq_true, if_false, Option.filter_none, Option.getD_none, List.append_nil]
  generalize hE : List.flatMap _ r.slots = E
  obtain rfl : E = noValueErrs r.line r.slots := by
    rw [← hE]
    unfold noValueErrs
    simp only [List.flatMap]
    congr 1
    apply List.map_congr_left
    intro o ho
    cases o with
    | none => rfl
    | some c => exact (r.columnErrors_none C c).trans (hvalid c ho)
  -- the sync checks run on a record without empty slot only, and find nothing
  split
  · rw [List.append_nil]
  · next hfn => rw [hinv.syncErrors (Bool.eq_false_iff.2 hfn), List.append_nil]

theorem fieldCol_valid {C : Ctx} {sp : ColSpec} {v : PyVal} (i : Nat) (n cls : String)
    (hsp : resolveSpec C.tbl cls = some sp) (hv : sp.valueInvalid v = false) :
    (fieldCol i n cls v).col.validate C none none = [] := by
  simp [Column.validate, Column.valueInvalid, Column.schemeErrors, fieldCol, hsp, hv]

theorem accept_some_cases {C : Ctx} {sp : ColSpec} {b : Bool} {f : Text} {v : PyVal}
    (h : sp.accept C b f = some v) :
    (sp.buildValue C f = .ok (.inl v) ∧ sp.valueInvalid v = false) ∨
    (sp.buildValue C f = .ok (.inr ()) ∧ b = true ∧ v = .atom (.str f)) := by
  unfold ColSpec.accept at h
  split at h
  · next v' hv =>
    cases hi : sp.valueInvalid v' <;> simp only [hi, Bool.false_eq_true, if_false, if_true] at h
    · cases h; exact Or.inl ⟨hv, hi⟩
    · cases h
  · next hv =>
    cases b <;> simp only [Bool.false_eq_true, if_false, if_true] at h
    · cases h
    · cases h; exact Or.inr ⟨hv, rfl, rfl⟩
  · cases h

theorem accept_valid {C : Ctx} {cls : String} {sp : ColSpec} (hkind : ClassKind cls sp) {b : Bool}
    {f : Text} {v : PyVal} (h : sp.accept C b f = some v) : sp.valueInvalid v = false := by
  rcases accept_some_cases h with ⟨_, hv⟩ | ⟨hb, _, _⟩
  · exact hv
  · rcases hkind with hcust | ⟨_, _, hval⟩
    · rcases buildValue_custom_cases C sp f hcust with ⟨v', hv'⟩ | ⟨e, he⟩
      · rw [hv'] at hb; cases hb
      · rw [he] at hb; cases hb
    · unfold ColSpec.valueInvalid; split
      · next heq => exact absurd heq hval
      · rfl

theorem specRec_valid (C : Ctx) (S : Scheme) (fields : List Text) (lineNo : Option Nat) (m : Mode)
    (k : Nat) (c : RCol) (hc : some c ∈ (specRec C S fields lineNo m k).slots) :
    c.col.validate C none none = [] := by
  obtain ⟨j, _, hj⟩ := loopRec_slot_mem (specRec_eq_loopRec .. ▸ hc)
  obtain ⟨n, cls, sp, f, v, _, _, hsp, ha, rfl⟩ := colAt_some hj
  rcases accept_some_cases ha with ⟨_, hv⟩ | ⟨_, hb, _⟩
  · exact fieldCol_valid j n cls hsp hv
  · cases hb

def fieldsOf (line : Text) : List Text := splitOn '\t' (rstripCRLF line)

theorem processErrors_nonstrict (m : Mode) (hm : m ≠ .strict) (errs : List VErr) :
    ∃ logs, processErrors m errs = .ok logs := by
  cases m with
  | strict => exact absurd rfl hm
  | silent => cases errs <;> exact ⟨_, rfl⟩
  | lenient => cases errs <;> exact ⟨_, rfl⟩

/-- the record `from_line` returns (in mode `m`) for a line with the right number of fields -/
def specFinal (C : Ctx) (S : Scheme) (fields : List Text) (lineNo : Option Nat) (m : Mode) : Record :=
  { specRec C S fields lineNo m S.size with
    errors := (specRec C S fields lineNo m S.size).errors ++
      noValueErrs lineNo (specRec C S fields lineNo m S.size).slots }

theorem fromLine_spec {C : Ctx} {S : Scheme} (hS : SchemeOK C S) (line : Text)
    (lineNo : Option Nat) (mode : Option Mode)
    (hlen : (fieldsOf line).length = S.size) :
    Record.fromLine C line none (some S) lineNo mode =
      match processErrors (modeOrSilent mode)
          (specFinal C S (fieldsOf line) lineNo (modeOrSilent mode)).errors with
      | .ok logs => .ok (specFinal C S (fieldsOf line) lineNo (modeOrSilent mode), logs)
      | .error e => .error e := by
  simp only [fieldsOf] at hlen ⊢
  have hn : (S.names.map String.toList).length = (splitOn '\t' (rstripCRLF line)).length := by
    simp [Scheme.names, hlen, Scheme.size]
  obtain ⟨h1, h2⟩ := fromLine_loop hS _ hlen lineNo (modeOrSilent mode) S.size (Nat.le_refl _)
  rw [List.take_of_length_le (by simp [hn, hlen])] at h1
  rw [fromLine_eq]
  simp only [hn, ne_eq, not_true_eq_false, if_false, h1, validate_spec C _ h2 (specRec_valid C S _ lineNo _ _)]
  simp only [specFinal, specRec]
  split <;> simp_all

theorem fromLine_mismatch (C : Ctx) (S : Scheme) (line : Text) (lineNo : Option Nat)
    (mode : Option Mode) (hlen : (fieldsOf line).length ≠ S.size) :
    Record.fromLine C line none (some S) lineNo mode =
      match processErrors (modeOrSilent mode)
          [{ tpe := "RECORD_MISMATCH_NUMBER_OF_COLUMNS", line := lineNo, origin := lineNo }] with
      | .ok logs => .ok ({ errors := [{ tpe := "RECORD_MISMATCH_NUMBER_OF_COLUMNS", line := lineNo, origin := lineNo }],
                           line := lineNo, mode := modeOrSilent mode }, logs)
      | .error e => .error e := by
  simp only [fieldsOf] at hlen
  have hn : (S.names.map String.toList).length ≠ (splitOn '\t' (rstripCRLF line)).length := by
    simpa [Scheme.names, Scheme.size] using Ne.symm hlen
  rw [fromLine_eq]
  simp only
  rw [if_pos hn, validate_spec C
    { errors := [{ tpe := "RECORD_MISMATCH_NUMBER_OF_COLUMNS", line := lineNo, origin := lineNo }],
      line := lineNo, mode := modeOrSilent mode } (Record.Inv.init.of_eq rfl rfl) (by simp)]
  simp only [noValueErrs, List.flatMap_nil, List.append_nil]
  split <;> simp_all

end Model
