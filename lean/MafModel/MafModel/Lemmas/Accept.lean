/-
  Field-level refinement: for every named column type, acceptance by the
  operational model (resolved class record + hook chains) equals the flat
  domain specification `Spec.namedBuild`, for every text.  `Builtin.accept_named`
  collects the lemmas of this file into one statement over `Expected.named`.
-/
import MafModel.Lemmas.Hooks
import MafModel.Lemmas.Expected
import MafModel.Spec.Domain
open Model Py Spec

namespace Accept

theorem nil_beq (t : Text) : (([] : Text) == t) = decide (t = []) := by
  cases t <;> simp

theorem str_beq (s : String) (t : Text) : (s.toList == t) = decide (t = s.toList) := by
  by_cases h : t = s.toList
  · subst h; simp
  · simp [h]; exact fun e => h e.symm

@[simp] theorem pyEq_none_atom (a : Atom) : PyVal.pyEq (.atom .none) (.atom a) = decide (a = .none) := by
  cases a <;> simp [PyVal.pyEq, Atom.pyEq]

@[simp] theorem pyEq_none_list (xs : List Atom) : PyVal.pyEq (.atom .none) (.list xs) = false := by
  simp [PyVal.pyEq]

@[simp] theorem pyEq_nil_list (xs : List Atom) : PyVal.pyEq (.list []) (.list xs) = decide (xs = []) := by
  cases xs <;> simp [PyVal.pyEq]

@[simp] theorem pyEq_nil_atom (a : Atom) : PyVal.pyEq (.list []) (.atom a) = false := by
  simp [PyVal.pyEq]

@[simp] theorem pyEq_enum_atom (c m : String) (a : Atom) :
    PyVal.pyEq (.atom (.enum c m)) (.atom a) = decide (a = .enum c m) := by
  cases a <;> simp [PyVal.pyEq, Atom.pyEq]
  rw [Bool.eq_iff_iff]
  simp
  constructor <;> (rintro ⟨rfl, rfl⟩; exact ⟨rfl, rfl⟩)

/-- the shape shared by all concrete column types: both `build` and `validate`
    are the ones of `MafCustomColumnRecord` -/
def acceptCustom (C : Ctx) (sp : ColSpec) (t : Text) : Option PyVal :=
  match sp.nullDict.bind (fun d => List.find? (fun p => p.1.toList == t) d) with
  | some p => if sp.valueInvalid p.2.toPy then none else some p.2.toPy
  | none => match runBuild C sp t with
    | .ok v => if sp.valueInvalid v then none else some v
    | .error _ => none

theorem accept_eq_custom (C : Ctx) (sp : ColSpec) (t : Text)
    (hb : sp.buildMethod = some "MafCustomColumnRecord") :
    sp.accept C false t = acceptCustom C sp t := by
  simp only [ColSpec.accept, ColSpec.buildValue, hb, acceptCustom]
  cases sp.nullDict.bind (fun d => List.find? (fun p => p.1.toList == t) d) with
  | some p => rfl
  | none => cases runBuild C sp t <;> rfl

/-! ### `mapM` in `Option` and `Except` -/

theorem mapM_option_cons {α β} (f : α → Option β) (p : α) (ps : List α) (ys : List β) :
    (p :: ps).mapM f = some ys ↔ ∃ a xs, f p = some a ∧ ps.mapM f = some xs ∧ ys = a :: xs := by
  rw [List.mapM_cons]
  cases f p with
  | none => simp
  | some a => cases ps.mapM f <;> simp [eq_comm]

theorem mapM_except_cons {α β ε} (g : α → Except ε β) (a : α) (l : List α) (ys : List β) :
    (a :: l).mapM g = .ok ys ↔ ∃ r rs, g a = .ok r ∧ l.mapM g = .ok rs ∧ ys = r :: rs := by
  rw [List.mapM_cons]
  cases g a with
  | error e => simp [bind, Except.bind]
  | ok r => cases l.mapM g <;> simp [bind, Except.bind, pure, Except.pure, eq_comm]

theorem mapM_ok_mem {α β ε : Type} (f : α → Except ε β) :
    ∀ (l : List α) (xs : List β), l.mapM f = .ok xs → ∀ a ∈ xs, ∃ p ∈ l, f p = .ok a
  | [], xs, h, a, ha => by cases h; cases ha
  | p :: ps, xs, h, a, ha => by
    obtain ⟨b, ys, hf, hm, rfl⟩ := (mapM_except_cons f p ps xs).mp h
    rcases List.mem_cons.mp ha with rfl | ha
    · exact ⟨p, by simp, hf⟩
    · obtain ⟨q, hq, hfq⟩ := mapM_ok_mem f ps ys hm a ha
      exact ⟨q, by simp [hq], hfq⟩

def accOf {α β ε : Type} (f : α → Except ε β) (inv : β → Bool) (p : α) : Option β :=
  match f p with
  | .ok a => if inv a then none else some a
  | .error _ => none

def accAll {β ε : Type} (inv : β → Bool) (r : Except ε (List β)) : Option (List β) :=
  match r with
  | .ok xs => if xs.any inv then none else some xs
  | .error _ => none

/-- building all elements and then validating them all is building-and-validating one by one -/
theorem mapM_filter {α β ε : Type} (f : α → Except ε β) (inv : β → Bool) (l : List α) :
    accAll inv (l.mapM f) = l.mapM (accOf f inv) := by
  induction l with
  | nil => rfl
  | cons p ps ih =>
    rw [List.mapM_cons, List.mapM_cons, ← ih]
    cases hf : f p with
    | error e => simp [accAll, accOf, hf, bind, Except.bind]
    | ok a =>
      cases ps.mapM f <;> cases hi : inv a <;>
        simp [accAll, accOf, hf, hi, bind, Except.bind, pure, Except.pure]
      split <;> rfl

/-! ### the scalar column types

Every proof below has the same shape.  `accept_eq_custom` exposes the null-dictionary lookup
followed by `__build__` and `__validate__`; the proof then splits on what decides the outcome (is
the text a null spelling, what does `int()`, `float()`, `UUID()` or the vocabulary make of it) and
in each case both sides compute.  The local simp set is what "compute" unfolds: the dispatch
through the record (first two lines), the Python predicates, the hook bodies, and the
specification side (last line).  Types that differ in a constant only share a lemma. -/

-- in a branch closed by `<;> simp [...]` not every case hypothesis is used
set_option linter.unusedSimpArgs false

theorem vDna_str (s : Text) : vDna (.atom (.str s)) = if s = ['-'] then false else !isDna s := rfl

attribute [local simp] acceptCustom runBuild Except.map ColSpec.valueInvalid ColSpec.isNullValue
  ColSpec.nullValues NullVal.toPy nil_beq
  isInstanceStr isInstanceInt isInstanceFloat isInstanceBool isInstanceUuid PyVal.truthy Atom.truthy asInt
  bInt bFloat bStrInt bStrIntFloat bEnum vEnum bCanonical bBoolean bUuid vDna_str vStrand vIntRange
  namedBuild nullOr intAtLeast lookupName plainEnums nullableEnums capEnums enumOf

theorem accept_NullableStringColumn (C : Ctx) (t : Text) :
    Expected.NullableStringColumn.accept C false t = namedBuild ⟨C.enums, C.H⟩ "NullableStringColumn" t := by
  rw [accept_eq_custom _ _ _ rfl]
  by_cases ht : t = [] <;> simp [Expected.NullableStringColumn, ht]

theorem accept_StringColumn (C : Ctx) (t : Text) :
    Expected.StringColumn.accept C false t = namedBuild ⟨C.enums, C.H⟩ "StringColumn" t := by
  rw [accept_eq_custom _ _ _ rfl]
  by_cases ht : t = [] <;> simp [Expected.StringColumn, ht]

theorem accept_StringOrIntegerColumn (C : Ctx) (t : Text) :
    Expected.StringOrIntegerColumn.accept C false t = namedBuild ⟨C.enums, C.H⟩ "StringOrIntegerColumn" t := by
  rw [accept_eq_custom _ _ _ rfl]
  cases h : pyInt t <;> simp [Expected.StringOrIntegerColumn, h]

theorem accept_StringIntegerOrFloatColumn (C : Ctx) (t : Text) :
    Expected.StringIntegerOrFloatColumn.accept C false t = namedBuild ⟨C.enums, C.H⟩ "StringIntegerOrFloatColumn" t := by
  rw [accept_eq_custom _ _ _ rfl]
  cases h : pyInt t <;> cases h2 : C.H.parse t <;> simp [Expected.StringIntegerOrFloatColumn, h, h2]

/-- the four integer types with a lower bound or none are `IntegerColumn` with `__min_value__` set -/
theorem accept_int (C : Ctx) (lo : Option Int) (t : Text) :
    ({ Expected.IntegerColumn with minV := lo } : ColSpec).accept C false t = intAtLeast lo t := by
  rw [accept_eq_custom _ _ _ rfl]
  cases lo <;> cases h : pyInt t <;> simp [Expected.IntegerColumn, h]
  rename_i l i; by_cases h0 : l ≤ i <;> simp [h0] <;> omega

theorem accept_nullableInt (C : Ctx) (lo : Option Int) (t : Text) :
    ({ Expected.NullableIntegerColumn with minV := lo } : ColSpec).accept C false t
      = nullOr t (intAtLeast lo) := by
  rw [accept_eq_custom _ _ _ rfl]
  by_cases ht : t = [] <;> cases lo <;> cases h : pyInt t <;>
    simp [Expected.NullableIntegerColumn, h, ht]
  rename_i l i; by_cases h0 : l ≤ i <;> simp [h0] <;> omega

theorem accept_FloatColumn (C : Ctx) (t : Text) :
    Expected.FloatColumn.accept C false t = namedBuild ⟨C.enums, C.H⟩ "FloatColumn" t := by
  rw [accept_eq_custom _ _ _ rfl]
  cases h : C.H.parse t <;> simp [Expected.FloatColumn, h]

theorem accept_NullableFloatColumn (C : Ctx) (t : Text) :
    Expected.NullableFloatColumn.accept C false t = namedBuild ⟨C.enums, C.H⟩ "NullableFloatColumn" t := by
  rw [accept_eq_custom _ _ _ rfl]
  by_cases ht : t = [] <;> cases h : C.H.parse t <;> simp [Expected.NullableFloatColumn, h, ht]

theorem accept_TranscriptStrand (C : Ctx) (t : Text) :
    Expected.TranscriptStrand.accept C false t = namedBuild ⟨C.enums, C.H⟩ "TranscriptStrand" t := by
  rw [accept_eq_custom _ _ _ rfl]
  by_cases ht : t = [] <;> cases h : pyInt t <;> simp [Expected.TranscriptStrand, h, ht]
  rename_i i; by_cases h0 : i = -1 <;> by_cases h1 : i = 1 <;> simp [h0, h1]

theorem accept_Canonical (C : Ctx) (t : Text) :
    Expected.Canonical.accept C false t = namedBuild ⟨C.enums, C.H⟩ "Canonical" t := by
  rw [accept_eq_custom _ _ _ rfl]
  by_cases h1 : pyUpper t = [] <;> by_cases h2 : pyUpper t = ['Y', 'E', 'S'] <;> simp [Expected.Canonical, h1, h2]

theorem accept_BooleanColumn (C : Ctx) (t : Text) :
    Expected.BooleanColumn.accept C false t = namedBuild ⟨C.enums, C.H⟩ "BooleanColumn" t := by
  rw [accept_eq_custom _ _ _ rfl]
  by_cases h1 : pyUpper t = ['T', 'R', 'U', 'E'] <;> by_cases h2 : pyUpper t = ['F', 'A', 'L', 'S', 'E'] <;> simp [Expected.BooleanColumn, h1, h2]

theorem accept_UUIDColumn (C : Ctx) (t : Text) :
    Expected.UUIDColumn.accept C false t = namedBuild ⟨C.enums, C.H⟩ "UUIDColumn" t := by
  rw [accept_eq_custom _ _ _ rfl]
  cases h : pyUuid t <;> simp [Expected.UUIDColumn, h]

theorem accept_NullableUUIDColumn (C : Ctx) (t : Text) :
    Expected.NullableUUIDColumn.accept C false t = namedBuild ⟨C.enums, C.H⟩ "NullableUUIDColumn" t := by
  rw [accept_eq_custom _ _ _ rfl]
  by_cases ht : t = [] <;> cases h : pyUuid t <;> simp [Expected.NullableUUIDColumn, h, ht]

theorem accept_NullableDnaString (C : Ctx) (t : Text) :
    Expected.NullableDnaString.accept C false t = namedBuild ⟨C.enums, C.H⟩ "NullableDnaString" t := by
  rw [accept_eq_custom _ _ _ rfl]
  by_cases ht : t = [] <;> by_cases h1 : t = ['-'] <;> cases h2 : isDna t <;>
    simp [Expected.NullableDnaString, ht, h1, h2]

theorem accept_DnaString (C : Ctx) (t : Text) :
    Expected.DnaString.accept C false t = namedBuild ⟨C.enums, C.H⟩ "DnaString" t := by
  rw [accept_eq_custom _ _ _ rfl]
  by_cases ht : t = [] <;> by_cases h1 : t = ['-'] <;> cases h2 : isDna t <;>
    simp [Expected.DnaString, ht, h1, h2]

/-! ### the sequence column types -/

theorem elemBuild_noSep (S : SCtx) (elem : String) (p : Text) (a : Atom)
    (h : elemBuild S elem p = some a) (hp : ';' ∉ p) : hasListSep a = false := by
  cases a with
  | str s =>
    simp only [elemBuild, enumOf] at h
    repeat' split at h
    all_goals simp_all [hasListSep]
  | _ => rfl

/-- The four sequence types are `SequenceOfStrings` with another element class: null spelling
    `""` ↦ `[]`, otherwise split on `;` and build / validate each element with the element class,
    which `hfg` relates to the specification of the element. -/
theorem accept_seq (C : Ctx) (es : ElemSpec) (elem : String) (t : Text)
    (hfg : ∀ p, accOf (runBuildAtom C es.enumCls es.buildChain)
        (fun a => runValidate es.enumCls es.minV es.maxV (fun _ => true) es.validateChain (.atom a)) p
        = elemBuild ⟨C.enums, C.H⟩ elem p) :
    ({ Expected.SequenceOfStrings with elem := some es } : ColSpec).accept C false t
      = seqOf ⟨C.enums, C.H⟩ elem t := by
  rw [accept_eq_custom _ _ _ rfl]
  by_cases ht : t = []
  · simp [Expected.SequenceOfStrings, ht, seqOf]
  · have := mapM_filter (runBuildAtom C es.enumCls es.buildChain)
      (fun a => runValidate es.enumCls es.minV es.maxV (fun _ => true) es.validateChain (.atom a)) (splitOn ';' t)
    rw [funext hfg] at this
    simp only [seqOf, ht, if_false, ← this]
    simp only [acceptCustom, Expected.SequenceOfStrings, runBuild, bSeq, if_true]
    simp only [Option.bind, List.find?, String.toList_empty, nil_beq, ht, decide_false]
    cases hm : (splitOn ';' t).mapM (runBuildAtom C es.enumCls es.buildChain) with
    | error e => simp [accAll]
    | ok xs =>
      -- a valid element comes from a `;`-free piece, so the separator check of the sequence adds nothing
      have hany : xs.any (fun a =>
            runValidate es.enumCls es.minV es.maxV (fun _ => true) es.validateChain (.atom a) || hasListSep a)
          = xs.any (fun a =>
            runValidate es.enumCls es.minV es.maxV (fun _ => true) es.validateChain (.atom a)) := by
        rw [Bool.eq_iff_iff, List.any_eq_true, List.any_eq_true]
        refine ⟨fun ⟨a, ha, h⟩ => ⟨a, ha, ?_⟩, fun ⟨a, ha, h⟩ => ⟨a, ha, by simp [h]⟩⟩
        cases hva : runValidate es.enumCls es.minV es.maxV (fun _ => true) es.validateChain (.atom a) with
        | true => rfl
        | false =>
          obtain ⟨p, hp, hfp⟩ := mapM_ok_mem _ _ _ hm a ha
          have h1 := hfg p
          simp only [accOf, hfp, hva] at h1
          simp [hva, elemBuild_noSep _ _ _ _ h1.symm (not_mem_of_mem_splitOn ';' t p hp)] at h
      simp [ColSpec.elemInvalid, vSeq, accAll, hany]
      by_cases hx : xs = []
      · simp [hx]
      · simp [hx]; split <;> simp_all

theorem accept_SequenceOfStrings (C : Ctx) (t : Text) :
    Expected.SequenceOfStrings.accept C false t = namedBuild ⟨C.enums, C.H⟩ "SequenceOfStrings" t :=
  accept_seq C _ "StringColumn" t fun p => by
    by_cases hp : p = [] <;> simp [accOf, elemBuild, hp]

theorem accept_SequenceOfIntegers (C : Ctx) (t : Text) :
    Expected.SequenceOfIntegers.accept C false t = namedBuild ⟨C.enums, C.H⟩ "SequenceOfIntegers" t :=
  accept_seq C _ "IntegerColumn" t fun p => by
    cases hp : pyInt p <;> simp [accOf, elemBuild, hp]

theorem accept_SequenceOfNullableYesOrNo (C : Ctx) (t : Text) :
    Expected.SequenceOfNullableYesOrNo.accept C false t = namedBuild ⟨C.enums, C.H⟩ "SequenceOfNullableYesOrNo" t :=
  accept_seq C _ "NullableYesOrNo" t fun p => by
    cases hp : enumLookup C.enums "NullableYesOrNoEnum" (pyCapitalize p) <;> simp [accOf, elemBuild, hp]

theorem accept_SequenceOfSequencers (C : Ctx) (t : Text) :
    Expected.SequenceOfSequencers.accept C false t = namedBuild ⟨C.enums, C.H⟩ "SequenceOfSequencers" t :=
  accept_seq C _ "Sequencer" t fun p => by
    cases hp : enumLookup C.enums "SequencerEnum" p <;> simp [accOf, elemBuild, hp]

/-! ### the enumerated column types -/

theorem accept_YesNoOrUnknown (C : Ctx) (t : Text) :
    Expected.YesNoOrUnknown.accept C false t = namedBuild ⟨C.enums, C.H⟩ "YesNoOrUnknown" t := by
  rw [accept_eq_custom _ _ _ rfl]
  cases h : enumLookup C.enums "YesNoOrUnknownEnum" t <;> simp [Expected.YesNoOrUnknown, h]

/-- the other plain enumerated types are `Strand` with another vocabulary -/
theorem accept_enum (C : Ctx) (e : String) (t : Text) :
    ({ Expected.Strand with enumCls := some e } : ColSpec).accept C false t
      = (enumOf ⟨C.enums, C.H⟩ e t).map .atom := by
  rw [accept_eq_custom _ _ _ rfl]
  cases h : enumLookup C.enums e t <;> simp [Expected.Strand, h]

/-- the enumerated types with the null spelling `""` ↦ `None` are `FeatureType` with another vocabulary -/
theorem accept_nullableEnum (C : Ctx) (e : String) (t : Text) :
    ({ Expected.FeatureType with enumCls := some e } : ColSpec).accept C false t
      = nullOr t fun t => (enumOf ⟨C.enums, C.H⟩ e t).map .atom := by
  rw [accept_eq_custom _ _ _ rfl]
  by_cases ht : t = [] <;> cases h : enumLookup C.enums e t <;> simp [Expected.FeatureType, h, ht]

theorem accept_NullableYesOrNo (C : Ctx) (t : Text) :
    Expected.NullableYesOrNo.accept C false t = namedBuild ⟨C.enums, C.H⟩ "NullableYesOrNo" t := by
  rw [accept_eq_custom _ _ _ rfl]
  by_cases ht : t = [] <;> by_cases hn : t = ['N', 'u', 'l', 'l'] <;>
    cases h : enumLookup C.enums "NullableYesOrNoEnum" (pyCapitalize t) <;>
    simp [Expected.NullableYesOrNo, h, ht, hn, str_beq]

theorem accept_NullableYOrN (C : Ctx) (t : Text) :
    Expected.NullableYOrN.accept C false t = namedBuild ⟨C.enums, C.H⟩ "NullableYOrN" t := by
  rw [accept_eq_custom _ _ _ rfl]
  by_cases ht : t = [] <;> by_cases hn : t = ['N', 'u', 'l', 'l'] <;>
    cases h : enumLookup C.enums "NullableYOrNEnum" (pyCapitalize t) <;>
    simp [Expected.NullableYOrN, h, ht, hn, str_beq]

theorem accept_PickColumn (C : Ctx) (t : Text) :
    Expected.PickColumn.accept C false t = namedBuild ⟨C.enums, C.H⟩ "PickColumn" t := by
  rw [accept_eq_custom _ _ _ rfl]
  by_cases ht : t = [] <;> by_cases hn : t = ['N', 'u', 'l', 'l'] <;>
    cases h : enumLookup C.enums "PickEnum" (pyCapitalize t) <;>
    simp [Expected.PickColumn, h, ht, hn, str_beq]

/-- `EntrezGeneId`: zero, however spelled, is the null value -/
theorem accept_EntrezGeneId (C : Ctx) (t : Text) :
    Expected.EntrezGeneId.accept C false t = namedBuild ⟨C.enums, C.H⟩ "EntrezGeneId" t := by
  rw [accept_eq_custom _ _ _ rfl]
  by_cases ht : t = ['0']
  · subst ht
    have : pyInt ['0'] = some 0 := by decide
    simp [Expected.EntrezGeneId, str_beq, this]
  · cases h : pyInt t with
    | none => simp [Expected.EntrezGeneId, str_beq, ht, h, zeroIsNull]
    | some i =>
      by_cases h0 : i = 0
      · subst h0; simp [Expected.EntrezGeneId, str_beq, ht, h, zeroIsNull, Atom.pyEq]
      · simp [Expected.EntrezGeneId, str_beq, ht, h, zeroIsNull, Atom.pyEq, h0]
        by_cases h1 : (0:Int) ≤ i <;> simp [h1] <;> omega

end Accept
