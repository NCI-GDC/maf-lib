/-
  How a `__validate__` hook that `Bodies.hookInvalid` interprets is evaluated: `hookInvalid` is the run of the definer's
  body (`hookInvalid_eq_run`); a property of every leaf of the run's decision tree, under the answers on the way to it,
  holds of the result (`hookInvalid_of_forall`); a run that is one test with constant outcomes (`hookInvalid_test`).
-/
import MafModel.Lemmas.BodiesEmb
open Py PyIR

namespace Bodies

theorem hookInvalid_eq_run {fp K D v} (hD : validateDefiner K = some D) :
    hookInvalid fp K v
      = (run Generated.Bodies.program (host fp) D "__validate__" [colObj K v]).map (fun r => !r.1.isNone) := by
  rw [hookInvalid, hD]

theorem hookInvalid_of_forall {fp K D v} {m : Except PyErr Bool} (hD : validateDefiner K = some D)
    (h : (runTree Generated.Bodies.program (host fp) D "__validate__" [colObj K v]).Forall (host fp)
      (fun r => r.map (fun r => !r.1.isNone) = m)) :
    hookInvalid fp K v = m := by
  rw [hookInvalid_eq_run hD]; exact h.eval

/-- a hook whose run on `v` is the single test `q` with constant outcomes `a` / `b` gives the verdict of `a` or of `b` -/
theorem hookInvalid_test {fp K D v q a b} {m : Except PyErr Bool} (hD : validateDefiner K = some D)
    (ht : runTree Generated.Bodies.program (host fp) D "__validate__" [colObj K v] = .ask q (.done a) (.done b))
    (hm : m = if q.holds (host fp) then a.map (fun r => !r.1.isNone) else b.map (fun r => !r.1.isNone)) :
    hookInvalid fp K v = m :=
  hookInvalid_of_forall hD <| .ask_of ht (fun h => .done_of rfl (by rw [hm, if_pos h])) (fun h => .done_of rfl (by rw [hm, h]; rfl))

end Bodies
