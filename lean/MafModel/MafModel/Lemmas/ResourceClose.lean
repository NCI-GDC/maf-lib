/-
  `sorter.close()` of the spill-file effect model: it releases everything that is
  registered; only a file whose removal failed can remain, still registered.
-/
import MafModel.Lemmas.ResourceIter
open Py Model MergeLemmas

namespace ResourceLemmas

/-- the invariant at operation boundaries: every existing file is registered, every
    open descriptor is registered, every open handle belongs to a registered cursor
    that is not marked closed.  Of `WF` it has the fields that speak neither of the id counter nor
    of `paths.Nodup`: `close()` creates nothing. -/
structure RInv (s : RState) : Prop where
  filesNd : s.files.Nodup
  fdsNd : s.fds.Nodup
  filesReg : ∀ f ∈ s.files, f ∈ s.paths
  lenReg : s.paths.length = s.fdsReg.length
  fdsReg : ∀ d ∈ s.fds, some d ∈ s.fdsReg
  hinv : HInv s
  cov : Cov s

theorem RInv.of_wf {s : RState} (hw : WF s) (hi : HInv s) (hc : Cov s) : RInv s :=
  ⟨hw.filesNd, hw.fdsNd, hw.filesReg, hw.lenReg, hw.fdsReg, hi, hc⟩

/-! ### first phase: the registered merging iterators -/

theorem closeAll_spec (G : List (List Cursor)) (first : Option PyErr) (s0 s : RState) (hi : HInv s)
    (hseen : Seen s0 s first) :
    ∃ first' s', exec (G.foldlM (fun first cs => collectOS first (closeCursors cs)) first) s = (.ok first', s') ∧
      Seen s0 s' first' ∧ CloseQ s G.flatten s' := by
  induction G generalizing first s with
  | nil => exact ⟨first, s, rfl, hseen, Shrink.refl s, fun _ _ _ h => by cases h⟩
  | cons cs G ih =>
    obtain ⟨f1, s1, h1, hs1, _, hq⟩ := hseen.collectOS (closeCursors_spec cs s hi)
    have q1 : CloseQ s cs s1 := hq.elim id id
    obtain ⟨f2, s2, h2, hs2, q2⟩ := ih f1 s1 (hi.shrink q1.1) hs1
    exact ⟨f2, s2, by rw [List.foldlM_cons, exec_bind_ok h1]; exact h2, hs2, q1.trans q2⟩

/-! ### second phase: descriptors and files -/

/-- the file of a registered pair, once its descriptor has been dealt with: a failed removal keeps
    the file in `rem` -/
def removeTail (pd : Nat × Option Nat) (rem : List Nat) (first : Option PyErr) : M (Option PyErr × List Nat) :=
  tryCatch (do osremove pd.1; pure (first, rem))
    (fun e => match e with
      | .os _ => pure (first.orElse (fun _ => some e), rem ++ [pd.1])
      | e => throw e)

/-- the step of the second loop of `close()`: the descriptor (if one is registered), then the file -/
def removeStep (acc : Option PyErr × List Nat) (pd : Nat × Option Nat) : M (Option PyErr × List Nat) := do
  let (first, remaining) := acc
  let first ← match pd.2 with
    | some d => collectOS first (osclose d)
    | none => pure first
  removeTail pd remaining first

theorem close_eq : close = (do
    let s ← get
    let first ← s.merging.foldlM (fun (first : Option PyErr) cs => collectOS first (closeCursors cs)) none
    modify (fun s => { s with merging := [] })
    let (first, remaining) ← (s.paths.zip s.fdsReg).foldlM removeStep (first, [])
    modify (fun s => { s with paths := remaining, fdsReg := remaining.map (fun _ => none) })
    match first with
    | some e => throw e
    | none => pure ()) := rfl

/-- what the second phase leaves alone -/
structure Keep (s s' : RState) : Prop where
  handles : s'.handles = s.handles
  merging : s'.merging = s.merging
  nextId : s'.nextId = s.nextId
  paths : s'.paths = s.paths
  fdsReg : s'.fdsReg = s.fdsReg
  failAt : s'.failAt = s.failAt

theorem Keep.refl (s : RState) : Keep s s := ⟨rfl, rfl, rfl, rfl, rfl, rfl⟩
theorem Keep.trans {a b c : RState} (h1 : Keep a b) (h2 : Keep b c) : Keep a c :=
  ⟨h2.handles.trans h1.handles, h2.merging.trans h1.merging, h2.nextId.trans h1.nextId,
   h2.paths.trans h1.paths, h2.fdsReg.trans h1.fdsReg, h2.failAt.trans h1.failAt⟩

/-- the second phase, begun in `s0`, has dealt with the pairs `done`: their descriptors are closed,
    and those of their files that are still there are in `rem`; `sA` is where `close()` began -/
structure RemInv (sA s0 : RState) (done : List (Nat × Option Nat)) (first : Option PyErr) (rem : List Nat)
    (s : RState) : Prop where
  keep : Keep s0 s
  files : s.files.Sublist s0.files
  fds : s.fds.Sublist s0.fds
  removed : ∀ f ∈ s.files, f ∈ done.map (·.1) → f ∈ rem
  closed : ∀ d ∈ s.fds, some d ∉ done.map (·.2)
  seen : Seen sA s first
  failed : rem ≠ [] → first.isSome = true

theorem osclose_spec (d : Nat) (s : RState) :
    Outcome s (exec (osclose d) s)
      (fun _ s' => Keep s s' ∧ s'.files = s.files ∧ s'.fds = s.fds.erase d)
      (fun s' => Keep s s' ∧ s'.files = s.files ∧ s'.fds = s.fds.erase d) := by
  rcases osclose_exec d s with ⟨t, ht⟩ | ⟨hf, t, ht⟩
  · rw [ht]; exact .ok rfl rfl ⟨⟨rfl, rfl, rfl, rfl, rfl, rfl⟩, rfl, rfl⟩
  · rw [ht]; exact .err rfl hf rfl ⟨⟨rfl, rfl, rfl, rfl, rfl, rfl⟩, rfl, rfl⟩

theorem removeStep_spec {sA s0 s : RState} {done : List (Nat × Option Nat)} {first : Option PyErr}
    {rem : List Nat} (pd : Nat × Option Nat) (hF : s0.files.Nodup) (hD : s0.fds.Nodup)
    (h : RemInv sA s0 done first rem s) :
    ∃ first' rem' s', exec (removeStep (first, rem) pd) s = (.ok (first', rem'), s') ∧
      RemInv sA s0 (done ++ [pd]) first' rem' s' := by
  -- the file, once the descriptor has been dealt with
  have hB : ∀ (f1 : Option PyErr) (s1 : RState), Keep s s1 → s1.files = s.files → s1.fds.Sublist s.fds →
      (∀ d ∈ s1.fds, some d ≠ pd.2) → Seen sA s1 f1 → (rem ≠ [] → f1.isSome = true) →
      ∃ first' rem' s', exec (removeTail pd rem f1) s1 = (.ok (first', rem'), s') ∧
        RemInv sA s0 (done ++ [pd]) first' rem' s' := by
    intro f1 s1 hk hf1 hd1 hn hs1 hr1
    have hmap : ∀ {β} {g : Nat × Option Nat → β} {x : β}, x ∈ (done ++ [pd]).map g →
        x ∈ done.map g ∨ x = g pd := fun hm => by simpa using hm
    have hcl : ∀ d ∈ s1.fds, some d ∉ (done ++ [pd]).map (·.2) :=
      fun d hd hm => (hmap hm).elim (h.closed d (hd1.subset hd)) (hn d hd)
    have hfs : s1.files.Sublist s0.files := hf1 ▸ h.files
    have hk' := h.keep.trans hk
    unfold removeTail
    rw [exec_tryCatch]
    rcases osremove_exec pd.1 s1 with ⟨t, ht⟩ | ⟨hf, t, ht⟩
    · rw [exec_bind_ok ht]
      refine ⟨f1, rem, _, rfl, hk'.trans ⟨rfl, rfl, rfl, rfl, rfl, rfl⟩, List.erase_sublist.trans hfs,
        hd1.trans h.fds, fun f hf hm => ?_, hcl, hs1.ok rfl rfl, hr1⟩
      have hf' : f ∈ s1.files.erase pd.1 := hf
      rw [hf1, (hF.sublist h.files).mem_erase_iff] at hf'
      exact (hmap hm).elim (h.removed f hf'.2) (fun he => absurd he hf'.1)
    · rw [exec_bind_err ht]
      obtain ⟨rfl, hs'⟩ := hs1.err (s' := fire s1 t) rfl hf rfl
      refine ⟨some ioErr, rem ++ [pd.1], _, rfl, hk'.trans ⟨rfl, rfl, rfl, rfl, rfl, rfl⟩, hfs,
        hd1.trans h.fds, fun f hf hm => ?_, hcl, hs', fun _ => rfl⟩
      rw [List.mem_append, List.mem_singleton]
      exact (hmap hm).imp (h.removed f (hf1 ▸ hf)) id
  unfold removeStep
  cases hd : pd.2 with
  | none =>
    exact hB first s (Keep.refl s) rfl (List.Sublist.refl _) (fun _ _ he => by rw [hd] at he; cases he)
      h.seen h.failed
  | some d =>
    simp only []
    obtain ⟨f1, s1, h1, hs1, hm1, hq⟩ := h.seen.collectOS (osclose_spec d s)
    obtain ⟨k1, k2, k3⟩ := hq.elim id id
    rw [exec_bind_ok h1]
    refine hB f1 s1 k1 k2 (k3 ▸ List.erase_sublist) (fun d' hd' he => ?_) hs1 (fun hr => hm1 (h.failed hr))
    rw [k3, (hD.sublist h.fds).mem_erase_iff] at hd'
    rw [hd] at he
    exact hd'.1 (Option.some.inj he)

theorem removeFold_spec (pds : List (Nat × Option Nat)) {sA s0 s : RState} {done : List (Nat × Option Nat)}
    {first : Option PyErr} {rem : List Nat} (hF : s0.files.Nodup) (hD : s0.fds.Nodup)
    (h : RemInv sA s0 done first rem s) :
    ∃ first' rem' s', exec (pds.foldlM removeStep (first, rem)) s = (.ok (first', rem'), s') ∧
      RemInv sA s0 (done ++ pds) first' rem' s' := by
  induction pds generalizing done first rem s with
  | nil => exact ⟨first, rem, s, rfl, by rwa [List.append_nil]⟩
  | cons pd pds ih =>
    obtain ⟨f1, r1, s1, h1, i1⟩ := removeStep_spec pd hF hD h
    obtain ⟨f2, r2, s2, h2, i2⟩ := ih i1
    exact ⟨f2, r2, s2, by rw [List.foldlM_cons, exec_bind_ok h1]; exact h2, by rwa [List.append_assoc] at i2⟩

/-- what holds after `close()`, whether it returned or raised -/
def CloseE (s' : RState) : Prop :=
  RInv s' ∧ s'.handles = [] ∧ s'.fds = [] ∧ s'.merging = []
/-- after a `close()` that returned -/
def CloseOk (s' : RState) : Prop :=
  CloseE s' ∧ s'.files = [] ∧ s'.paths = [] ∧ s'.fdsReg = []

theorem close_spec (s : RState) (hr : RInv s) :
    Outcome s (exec close s) (fun _ => CloseOk) CloseE := by
  rw [close_eq, exec_get_bind]
  obtain ⟨f1, s1, h1, hs1, q1⟩ := closeAll_spec s.merging none s s hr.hinv (Seen.refl s)
  rw [exec_bind_ok h1, exec_modify_bind]
  have hH1 : s1.handles = [] := q1.handles_nil fun h hh =>
    let ⟨cs, hcs, c, hc, hp⟩ := hr.cov h hh
    ⟨c, List.mem_flatten.2 ⟨cs, hcs, hc⟩, hp⟩
  have hreg : reg s1 = reg s := q1.1.1.1
  simp only [reg, Prod.mk.injEq] at hreg
  obtain ⟨f2, rem, s2, h2, i⟩ := removeFold_spec (s.paths.zip s.fdsReg) (sA := s)
    (s0 := { s1 with merging := [] }) (done := []) (hreg.1 ▸ hr.filesNd) (hreg.2.1 ▸ hr.fdsNd)
    ⟨Keep.refl _, .refl _, .refl _, fun _ _ h => (nomatch h), fun _ _ h => (nomatch h), hs1, fun h => absurd rfl h⟩
  rw [exec_bind_ok h2]
  simp only []
  rw [exec_modify_bind]
  have hfst : (s.paths.zip s.fdsReg).map (·.1) = s.paths := List.map_fst_zip (Nat.le_of_eq hr.lenReg)
  have hsnd : (s.paths.zip s.fdsReg).map (·.2) = s.fdsReg := List.map_snd_zip (Nat.le_of_eq hr.lenReg.symm)
  have hfiles : ∀ f ∈ s2.files, f ∈ rem := fun f hf =>
    i.removed f hf (by rw [List.nil_append, hfst]; exact hr.filesReg f (hreg.1 ▸ i.files.subset hf))
  have hfds : s2.fds = [] := List.eq_nil_iff_forall_not_mem.2 fun d hd =>
    i.closed d hd (by rw [List.nil_append, hsnd]; exact hr.fdsReg d (hreg.2.1 ▸ i.fds.subset hd))
  have hH2 : s2.handles = [] := i.keep.handles.trans hH1
  have hE : CloseE { s2 with paths := rem, fdsReg := rem.map (fun _ => none) } :=
    ⟨⟨(hreg.1 ▸ hr.filesNd : s1.files.Nodup).sublist i.files, hfds ▸ List.nodup_nil, hfiles, by simp,
      fun d hd => (by rw [hfds] at hd; cases hd), .of_nil hH2, .of_nil hH2⟩, hH2, hfds, i.keep.merging⟩
  refine Seen.outcome i.seen (fun hn => ?_) (fun _ => hE)
  have hrn : rem = [] := by
    cases rem with
    | nil => rfl
    | cons x xs => have := i.failed (by simp); rw [hn] at this; cases this
  subst hrn
  exact ⟨hE, List.eq_nil_iff_forall_not_mem.2 fun f hf => (nomatch hfiles f hf), rfl, rfl⟩

end ResourceLemmas
