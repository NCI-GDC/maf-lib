/-
  Lemmas for C20 (scheme registration): a successful `load_all_schemes` (`loadAll`) taken apart
  into its steps, the normalisation of base-less definitions as a total function `normD`, and
  `Spec.resolve` when definitions are appended.
-/
import MafModel.Model.Registry
import MafModel.Lemmas.SchemeLemmas
open Py Model SchemeLemmas

namespace RegistryLemmas

theorem ok_of_toBool {ε α} {x : Except ε α} (h : x.toBool = true) : ∃ r, x = .ok r := by
  cases x with
  | ok r => exact ⟨r, rfl⟩
  | error e => cases h

theorem mem_dictSet {β} {d : List (String × β)} {k : String} {v : β} {p : String × β}
    (h : p ∈ dictSet d k v) : p ∈ d ∨ p = (k, v) := by
  unfold dictSet at h
  split at h
  · obtain ⟨q, hq, rfl⟩ := List.mem_map.1 h
    split
    · exact .inr rfl
    · exact .inl hq
  · rcases List.mem_append.1 h with h | h
    · exact .inl h
    · exact .inr (by simpa using h)

/-! ### normalisation of base-less definitions -/

/-- `normalize` as a total function (the definition itself where it is rejected) -/
def normD (d : SchemeDef) : SchemeDef := d.normalize.getD d

theorem normD_of_some {d d' : SchemeDef} (h : d.normalize = some d') : normD d = d' := by
  unfold normD; rw [h]; rfl

theorem normD_cases (d : SchemeDef) :
    normD d = d ∨ ∃ f, d.hasBase = none ∧ d.filtered = some f ∧
      normD d = { d with columns := d.columns.filter (fun c => !f.contains c.1), filtered := none } := by
  unfold normD SchemeDef.normalize
  split
  · rename_i f hb hf
    split
    · exact .inl rfl
    · exact .inr ⟨f, hb, hf, rfl⟩
  · exact .inl rfl

theorem normD_version (d : SchemeDef) : (normD d).version = d.version := by
  rcases normD_cases d with h | ⟨f, _, _, h⟩ <;> rw [h]

theorem normD_annotation (d : SchemeDef) : (normD d).annotation = d.annotation := by
  rcases normD_cases d with h | ⟨f, _, _, h⟩ <;> rw [h]

theorem normD_base (d : SchemeDef) : (normD d).base = d.base := by
  rcases normD_cases d with h | ⟨f, _, _, h⟩ <;> rw [h]

theorem normD_columns_sublist (d : SchemeDef) : (normD d).columns.Sublist d.columns := by
  rcases normD_cases d with h | ⟨f, _, _, h⟩ <;> rw [h]
  · exact List.Sublist.refl _
  · exact List.filter_sublist

theorem normalize_id {d : SchemeDef} (h : d.hasBase = none → d.filtered = none) : d.normalize = some d := by
  unfold SchemeDef.normalize
  cases hb : d.hasBase with
  | some b => rfl
  | none => rw [h hb]

theorem normalize_baseless {d d' : SchemeDef} (h : d.normalize = some d') (hb : d.hasBase = none)
    {f : List String} (hf : d.filtered = some f) :
    d'.filtered = none ∧ d'.columns = d.columns.filter (fun c => !f.contains c.1) ∧
      ∀ n ∈ f, n ∈ d.columns.map (·.1) := by
  unfold SchemeDef.normalize at h
  rw [hb, hf] at h
  simp only [] at h
  split at h
  · cases h
  · rename_i hany
    cases h
    refine ⟨rfl, rfl, fun n hn => ?_⟩
    simp only [List.any_eq_true, Bool.not_eq_true', not_exists, not_and, Bool.not_eq_false] at hany
    obtain ⟨c, hc, hcn⟩ := hany n hn
    exact List.mem_map.2 ⟨c, hc, eq_of_beq hcn⟩

theorem mapM_normalize_some {data ds : List SchemeDef} (h : data.mapM SchemeDef.normalize = some ds) :
    (∀ d ∈ data, d.normalize = some (normD d)) ∧ ds = data.map normD := by
  induction data generalizing ds with
  | nil => cases h; exact ⟨by simp, rfl⟩
  | cons x xs ih =>
    rw [List.mapM_cons] at h
    cases hx : x.normalize with
    | none => rw [hx] at h; cases h
    | some x' =>
      cases hxs : xs.mapM SchemeDef.normalize with
      | none => rw [hx, hxs] at h; cases h
      | some xs' =>
        rw [hx, hxs] at h
        cases h
        obtain ⟨h1, rfl⟩ := ih hxs
        exact ⟨List.forall_mem_cons.2 ⟨(normD_of_some hx).symm ▸ hx, h1⟩,
          by rw [List.map_cons, normD_of_some hx]⟩

theorem mapM_normalize_of_all {data : List SchemeDef} (h : ∀ d ∈ data, d.normalize = some (normD d)) :
    data.mapM SchemeDef.normalize = some (data.map normD) := by
  induction data with
  | nil => rfl
  | cons x xs ih =>
    rw [List.mapM_cons, h x (by simp), ih (fun d hd => h d (by simp [hd]))]
    rfl

theorem mapM_normalize_id {data : List SchemeDef} (h : ∀ d ∈ data, d.hasBase = none → d.filtered = none) :
    data.mapM SchemeDef.normalize = some data := by
  have hn : ∀ d ∈ data, normD d = d := fun d hd => normD_of_some (normalize_id (h d hd))
  have := mapM_normalize_of_all fun d hd => (hn d hd).symm ▸ normalize_id (h d hd)
  rwa [List.map_congr_left hn, List.map_id'] at this

theorem map_normD_annotation (data : List SchemeDef) :
    (data.map normD).map (·.annotation) = data.map (·.annotation) := by
  rw [List.map_map]
  exact List.map_congr_left fun d _ => normD_annotation d

theorem defsOK_normD {data : List SchemeDef}
    (hnd : (data.map (·.annotation)).Nodup) (hcols : ∀ d ∈ data, (d.columns.map (·.1)).Nodup)
    (hann : ∀ d ∈ data, d.annotation ≠ "") : C14.DefsOK (data.map normD) := by
  refine ⟨by rw [map_normD_annotation]; exact hnd, ?_, ?_⟩
  · intro d' hd'
    obtain ⟨d, hd, rfl⟩ := List.mem_map.1 hd'
    exact List.Nodup.sublist ((normD_columns_sublist d).map _) (hcols d hd)
  · intro d' hd'
    obtain ⟨d, hd, rfl⟩ := List.mem_map.1 hd'
    rw [normD_annotation]; exact hann d hd

/-! ### what a successful run consists of -/

theorem buildSchemesTop_of {st : BuildState} {data ds : List SchemeDef}
    (hnd : (data.map (·.annotation)).Nodup) (hds : data.mapM SchemeDef.normalize = some ds) :
    buildSchemesTop st data = buildSchemes st ds := by
  unfold buildSchemesTop
  simp only [hnd, decide_true, Bool.not_true, Bool.false_eq_true, if_false, hds]

/-- a successful `load_all_schemes` with result `ss`, step by step -/
structure LoadRun (tbl : ClassTable) (order : List Nat) (bs ex : List SchemeDef) (ss : List Scheme) : Prop where
  nodup : ((bs ++ ex).map (·.annotation)).Nodup
  normalized : (bs ++ ex).mapM SchemeDef.normalize = some ((bs ++ ex).map normD)
  valid : validateSchemes (noRestrictionsClass :: ss) = true
  /-- `ss` is in build order -/
  built : ∃ st built, buildSchemes { tbl := tbl, order := order } ((bs ++ ex).map normD) = .ok (st, built) ∧
    ss = built.map (·.2)

theorem load_run {tbl : ClassTable} {order : List Nat} {bs ex : List SchemeDef}
    {tbl' : ClassTable} {ss : List Scheme} (h : loadAll tbl order bs ex = .ok (tbl', ss)) :
    LoadRun tbl order bs ex ss := by
  unfold loadAll buildSchemesTop at h
  simp only [] at h
  split at h
  · cases h
  · split at h
    · cases h
    · rename_i st built hb
      split at hb
      · cases hb
      · rename_i hnd
        split at hb
        · cases hb
        · rename_i ds hds
          split at h
          · cases h
          · rename_i hv
            cases h
            obtain ⟨_, rfl⟩ := mapM_normalize_some hds
            exact ⟨by simpa using hnd, hds, by simpa using hv, st, built, hb, rfl⟩

/-- The invariant of the build loop with nothing asked of the schemes: distinct annotations
    suffice for every definition to get a scheme under its annotation, with its own version
    and annotation. -/
theorem plainInv_of_ok {st : BuildState} {ds : List SchemeDef} (hnd : (ds.map (·.annotation)).Nodup) {r}
    (h : buildSchemes st ds = .ok r) : C14.LoopInv ds (fun _ _ _ _ => True) st r.1 [] r.2 :=
  (C14.LoopInv.run hnd (fun _ _ => trivial) fun _ _ _ _ _ => trivial).inv h

/-! ### appending definitions does not change what is already resolved -/

theorem findDef_append_of_some {bs : List SchemeDef} (ex : List SchemeDef) {a : String} {d : SchemeDef}
    (h : Spec.findDef bs a = some d) : Spec.findDef (bs ++ ex) a = some d := by
  unfold Spec.findDef at h ⊢
  rw [List.find?_append, h]; rfl

theorem resolve_append {bs : List SchemeDef} (ex : List SchemeDef) {n : Nat} {a : String} {l : Spec.Layout}
    (h : Spec.resolve bs n a = some l) : Spec.resolve (bs ++ ex) n a = some l := by
  fun_induction Spec.resolve bs n a generalizing l with
  | case1 => cases h
  | case2 => cases h
  | case3 n a d hfd hb => rw [resolve_root (findDef_append_of_some ex hfd) hb]; exact h
  | case4 n a d hfd b hb ih =>
    obtain ⟨bl, hbl, rfl⟩ := Option.map_eq_some_iff.1 h
    rw [resolve_derived (findDef_append_of_some ex hfd) hb, ih hbl]
    rfl

theorem layoutOf_append {bs : List SchemeDef} (ex : List SchemeDef) {a : String} {l : Spec.Layout}
    (h : Spec.layoutOf bs a = some l) : Spec.layoutOf (bs ++ ex) a = some l := by
  unfold Spec.layoutOf at h ⊢
  exact resolve_mono _ (by simp) (resolve_append ex h)

end RegistryLemmas
