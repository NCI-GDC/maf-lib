/-
  `Header.fromLines`: the stringency only decides what is reported, and the line numbers of the
  header errors.
-/
import MafModel.Lemmas.ReaderRecord
open Py
namespace Model

def Header.withMode (h : Header) (m : Mode) : Header := { h with mode := m }

@[simp] theorem Header.withMode_recs (h : Header) (m : Mode) : (h.withMode m).recs = h.recs := rfl
@[simp] theorem Header.withMode_errors (h : Header) (m : Mode) : (h.withMode m).errors = h.errors := rfl
@[simp] theorem Header.withMode_mode (h : Header) (m : Mode) : (h.withMode m).mode = m := rfl
@[simp] theorem Header.withMode_withMode (h : Header) (m m' : Mode) :
    (h.withMode m).withMode m' = h.withMode m' := rfl
theorem Header.withMode_self (h : Header) : h.withMode h.mode = h := rfl
@[simp] theorem Header.withMode_get (h : Header) (m : Mode) (k : Text) : (h.withMode m).get k = h.get k := rfl
@[simp] theorem Header.withMode_scheme (K : HConsts) (R : Registry) (h : Header) (m : Mode) :
    (h.withMode m).scheme K R = h.scheme K R := rfl
@[simp] theorem Header.withMode_sortOrder (K : HConsts) (h : Header) (m : Mode) :
    (h.withMode m).sortOrder K = h.sortOrder K := rfl

theorem parseLines_withMode (K : HConsts) (m : Mode) (ls : List Text) :
    ∀ (n : Nat) (h : Header),
      Header.parseLines K n ls (h.withMode m) = (Header.parseLines K n ls h).withMode m := by
  induction ls with
  | nil => intro n h; rfl
  | cons l ls ih =>
    intro n h
    unfold Header.parseLines
    cases HRec.fromLine K l n with
    | error e => exact ih (n + 1) { h with errors := h.errors ++ [e] }
    | ok r =>
      simp only []
      by_cases hg : (h.get r.key).isSome = true
      · rw [if_pos hg, if_pos (show ((h.withMode m).get r.key).isSome = true from hg)]
        exact ih (n + 1) { h with errors := h.errors ++ [{ tpe := "HEADER_DUPLICATE_KEYS", line := some n, origin := some n }] }
      · rw [if_neg hg, if_neg (show ¬ ((h.withMode m).get r.key).isSome = true from hg)]
        exact ih (n + 1) (h.set r)

theorem applyContigs_withMode (K : HConsts) (m : Mode) (h : Header) :
    (h.withMode m).applyContigs K = (h.applyContigs K).withMode m := by
  unfold Header.applyContigs
  show (match h.contigs K, h.get K.sortOrderKey with
    | some cs, some { value := .sortOrder o _, key := k } =>
      if (!cs.isEmpty && o.sortable) = true then (h.withMode m).set { key := k, value := .sortOrder o cs } else h.withMode m
    | _, _ => h.withMode m) = _
  generalize h.contigs K = a
  generalize h.get K.sortOrderKey = b
  rcases a with _ | cs <;> rcases b with _ | ⟨k, v⟩ <;> try rfl
  cases v <;> try rfl
  simp only []
  split <;> rfl

/-- the error list `validate` leaves on the header -/
def Header.validateErrors (K : HConsts) (R : Registry) (h : Header) : List VErr :=
  (match h.version K with
    | none => [{ tpe := "HEADER_MISSING_VERSION", line := none }]
    | some v => if R.supportedVersions.contains (String.ofList v) then []
                else [{ tpe := "HEADER_UNSUPPORTED_VERSION", line := none }])
  ++ (match (h.scheme K R).filter Scheme.isBasic with
    | some _ => if (h.get K.annotationKey).isSome then [{ tpe := "HEADER_UNSUPPORTED_ANNOTATION_SPEC", line := none }] else []
    | none => match h.annotation K with
      | none => [{ tpe := "HEADER_MISSING_ANNOTATION_SPEC", line := none }]
      | some a => if R.supportedAnnotations.contains (String.ofList a) then []
                  else [{ tpe := "HEADER_UNSUPPORTED_ANNOTATION_SPEC", line := none }])

theorem Header.validate_eq (K : HConsts) (R : Registry) (h : Header) (mode : Option Mode) (reset : Bool) :
    h.validate K R mode reset =
      ({ h with errors := (if reset then [] else h.errors) ++ h.validateErrors K R },
       processErrors (mode.getD h.mode) ((if reset then [] else h.errors) ++ h.validateErrors K R)) := by
  unfold Header.validate Header.validateErrors
  simp only [List.append_assoc]
  rfl

theorem Header.validateErrors_lines (K : HConsts) (R : Registry) (h : Header) :
    ∀ e ∈ h.validateErrors K R, e.line = none ∧ e.origin = none := by
  intro e he
  unfold Header.validateErrors at he
  -- every branch of either part is `[]` or one error without a line number
  rcases List.mem_append.1 he with he | he
  all_goals repeat' split at he
  all_goals first | exact List.eq_of_mem_singleton he ▸ ⟨rfl, rfl⟩ | cases he

/-- the header `from_lines` builds, stringency field Silent -/
def parsedHeader (K : HConsts) (R : Registry) (lines : List Text) : Header :=
  let h1 := (Header.parseLines K 1 lines {}).applyContigs K
  { h1 with errors := h1.errors ++ h1.validateErrors K R }

/-- **the stringency only decides what is reported**: `from_lines` under any stringency is the
    stringency-independent `parsedHeader` followed by `processErrors` on the collected errors -/
theorem fromLines_spec (K : HConsts) (R : Registry) (lines : List Text) (mode : Option Mode) :
    Header.fromLines K R lines mode =
      ((parsedHeader K R lines).withMode (modeOrSilent mode),
       processErrors (modeOrSilent mode) (parsedHeader K R lines).errors) := by
  unfold Header.fromLines parsedHeader
  simp only []
  have e : ({ mode := modeOrSilent mode } : Header) = ({} : Header).withMode (modeOrSilent mode) := rfl
  rw [e, parseLines_withMode, applyContigs_withMode, Header.validate_eq]
  rfl

/-! ### line numbers of header errors -/

theorem HRec.fromLine_error_line {K : HConsts} {l : Text} {n : Nat} {e : VErr}
    (h : HRec.fromLine K l n = .error e) : e.line = some n ∧ e.origin = some n := by
  unfold HRec.fromLine at h
  repeat' (first | (cases h; exact ⟨rfl, rfl⟩) | (cases h; done) | split at h | simp only [] at h)

@[simp] theorem Header.set_errors (h : Header) (r : HRec) : (h.set r).errors = h.errors := rfl

theorem applyContigs_errors (K : HConsts) (h : Header) : (h.applyContigs K).errors = h.errors := by
  unfold Header.applyContigs
  split
  · split <;> rfl
  · rfl

/-- what a header error with a line number is: the diagnosis of that very line -/
def HeaderDiag (K : HConsts) (ls : List Text) (n : Nat) (e : VErr) : Prop :=
  ∃ i, ∃ _ : i < ls.length, e.line = some (n + i) ∧ e.origin = some (n + i) ∧
    (HRec.fromLine K ls[i] (n + i) = .error e ∨
      (e.tpe = "HEADER_DUPLICATE_KEYS" ∧ ∃ rec, HRec.fromLine K ls[i] (n + i) = .ok rec))

theorem parseLines_errors (K : HConsts) (ls : List Text) :
    ∀ (n : Nat) (h : Header), ∃ new, (Header.parseLines K n ls h).errors = h.errors ++ new ∧
      ∀ e ∈ new, HeaderDiag K ls n e := by
  induction ls with
  | nil => intro n h; exact ⟨[], by simp [Header.parseLines], by simp⟩
  | cons l ls ih =>
    intro n h
    have lift : ∀ e, HeaderDiag K ls (n + 1) e → HeaderDiag K (l :: ls) n e := by
      rintro e ⟨i, hi, h1, h2, h3⟩
      refine ⟨i + 1, by simpa using hi, ?_, ?_, ?_⟩
      · rw [h1]; congr 1; omega
      · rw [h2]; congr 1; omega
      · have e1 : n + (i + 1) = n + 1 + i := by omega
        simpa [e1] using h3
    unfold Header.parseLines
    cases hf : HRec.fromLine K l n with
    | error e =>
      simp only []
      obtain ⟨new, hnew, hall⟩ := ih (n + 1) { h with errors := h.errors ++ [e] }
      refine ⟨e :: new, by rw [hnew]; simp, ?_⟩
      intro e' he'
      rcases List.mem_cons.1 he' with rfl | he'
      · have := HRec.fromLine_error_line hf
        exact ⟨0, by simp, this.1, this.2, .inl (by simpa using hf)⟩
      · exact lift e' (hall e' he')
    | ok r =>
      simp only []
      by_cases hg : (h.get r.key).isSome = true
      · rw [if_pos hg]
        obtain ⟨new, hnew, hall⟩ := ih (n + 1)
          { h with errors := h.errors ++ [{ tpe := "HEADER_DUPLICATE_KEYS", line := some n, origin := some n }] }
        refine ⟨{ tpe := "HEADER_DUPLICATE_KEYS", line := some n, origin := some n } :: new, by rw [hnew]; simp, ?_⟩
        intro e' he'
        rcases List.mem_cons.1 he' with rfl | he'
        · exact ⟨0, by simp, rfl, rfl, .inr ⟨rfl, r, by simpa using hf⟩⟩
        · exact lift e' (hall e' he')
      · rw [if_neg hg]
        obtain ⟨new, hnew, hall⟩ := ih (n + 1) (h.set r)
        exact ⟨new, by rw [hnew]; rfl, fun e' he' => lift e' (hall e' he')⟩

/-- **the errors of a parsed header**: first the per-line diagnoses, each carrying the (1-based)
    number of the line it is about, then the whole-header errors, which carry no line number -/
theorem parsedHeader_errors (K : HConsts) (R : Registry) (ls : List Text) :
    ∃ perLine whole, (parsedHeader K R ls).errors = perLine ++ whole ∧
      (∀ e ∈ perLine, HeaderDiag K ls 1 e) ∧ (∀ e ∈ whole, e.line = none ∧ e.origin = none) := by
  obtain ⟨new, hnew, hall⟩ := parseLines_errors K ls 1 {}
  refine ⟨new, ((Header.parseLines K 1 ls {}).applyContigs K).validateErrors K R, ?_, hall,
    Header.validateErrors_lines K R _⟩
  show ((Header.parseLines K 1 ls {}).applyContigs K).errors ++ _ = _
  rw [applyContigs_errors, hnew]
  rfl

end Model
