/-
  The external sorter commutes with relabelling of the items: sorting `xs.map f` with the
  comparison `lt` is sorting `xs` with the comparison `fun a b => lt (f a) (f b)` and mapping `f`
  over the result.  No hypothesis on `lt` or `f`.

  Used by C10 to restrict the record comparison (a total preorder only on well-formed keyable
  records) to the subtype where C07's hypotheses hold.
-/
import MafModel.Lemmas.SorterLemmas

namespace SorterLemmas
open Model

variable {α β : Type}

def mapSorter (f : β → α) (s : Sorter β) : Sorter α :=
  { cap := s.cap, alwaysSpill := s.alwaysSpill, stash := s.stash.map f,
    files := s.files.map (List.map f) }

abbrev comapLt (lt : α → α → Bool) (f : β → α) : β → β → Bool := fun a b => lt (f a) (f b)

theorem sortChunk_map (lt : α → α → Bool) (f : β → α) (l : List β) :
    sortChunk lt (l.map f) = (sortChunk (comapLt lt f) l).map f := by
  unfold sortChunk
  exact (List.map_mergeSort (r := fun a b => !comapLt lt f b a) (s := fun a b => !lt b a) (f := f)
    (fun _ _ _ _ => rfl)).symm

theorem spill_map (lt : α → α → Bool) (f : β → α) (s : Sorter β) :
    (mapSorter f s).spill lt = mapSorter f (s.spill (comapLt lt f)) := by
  unfold Sorter.spill mapSorter
  cases hs : s.stash with
  | nil => simp [hs]
  | cons x l =>
    simp only [List.map_cons, List.isEmpty_cons, Bool.false_eq_true, if_false, List.map_append,
      List.map_nil]
    rw [← List.map_cons, sortChunk_map]

theorem add_map (lt : α → α → Bool) (f : β → α) (s : Sorter β) (x : β) :
    (mapSorter f s).add lt (f x) = mapSorter f (s.add (comapLt lt f) x) := by
  unfold Sorter.add
  have h1 : ({ mapSorter f s with stash := (mapSorter f s).stash ++ [f x] } : Sorter α)
      = mapSorter f { s with stash := s.stash ++ [x] } := by
    simp [mapSorter]
  simp only [h1]
  have h3 : ((mapSorter f s).stash ++ [f x]).length = (s.stash ++ [x]).length := by
    simp [mapSorter]
  have h4 : (mapSorter f s).cap = s.cap := rfl
  simp only [h3, h4]
  split
  · exact spill_map lt f _
  · rfl

theorem foldl_add_map (lt : α → α → Bool) (f : β → α) (xs : List β) (s : Sorter β) :
    (xs.map f).foldl (Sorter.add lt) (mapSorter f s)
      = mapSorter f (xs.foldl (Sorter.add (comapLt lt f)) s) := by
  induction xs generalizing s with
  | nil => rfl
  | cons x xs ih => rw [List.map_cons, List.foldl_cons, List.foldl_cons, add_map, ih]

theorem minHead_map (lt : α → α → Bool) (f : β → α) (cs : List (List β)) :
    minHead lt (cs.map (List.map f))
      = (minHead (comapLt lt f) cs).map (fun p => (p.1, f p.2)) := by
  induction cs with
  | nil => rfl
  | cons c cs ih =>
    cases c with
    | nil =>
      simp only [List.map_cons, List.map_nil, minHead, ih]
      cases minHead (comapLt lt f) cs <;> rfl
    | cons x c =>
      simp only [List.map_cons, minHead, ih]
      cases h : minHead (comapLt lt f) cs with
      | none => rfl
      | some p =>
        obtain ⟨j, y⟩ := p
        simp only [Option.map_some]
        split <;> rfl

theorem modify_tail_map (f : β → α) (cs : List (List β)) (i : Nat) :
    (cs.map (List.map f)).modify i List.tail = (cs.modify i List.tail).map (List.map f) := by
  induction cs generalizing i with
  | nil => simp
  | cons c cs ih =>
    cases i with
    | zero => simp [List.modify_zero_cons]
    | succ i => simp [List.modify_succ_cons, ih]

theorem mergeK_map (lt : α → α → Bool) (f : β → α) (fuel : Nat) (cs : List (List β)) :
    mergeK lt fuel (cs.map (List.map f)) = (mergeK (comapLt lt f) fuel cs).map f := by
  induction fuel generalizing cs with
  | zero => rfl
  | succ fuel ih =>
    simp only [mergeK, minHead_map]
    cases h : minHead (comapLt lt f) cs with
    | none => rfl
    | some p =>
      obtain ⟨i, x⟩ := p
      simp only [Option.map_some, List.map_cons]
      rw [modify_tail_map, ih]

theorem totalLen_map (f : β → α) (cs : List (List β)) :
    totalLen (cs.map (List.map f)) = totalLen cs := by
  simp [totalLen, Function.comp_def]

theorem iter_map (lt : α → α → Bool) (f : β → α) (s : Sorter β) :
    (mapSorter f s).iter lt = (s.iter (comapLt lt f)).map f := by
  unfold Sorter.iter
  have h1 : (mapSorter f s).files.isEmpty = s.files.isEmpty := by
    simp [mapSorter]
  have h2 : (mapSorter f s).alwaysSpill = s.alwaysSpill := rfl
  rw [h1, h2]
  split
  · simp only [spill_map]
    show mergeK lt (totalLen ((s.spill (comapLt lt f)).files.map (List.map f)))
      ((s.spill (comapLt lt f)).files.map (List.map f)) = _
    rw [totalLen_map, mergeK_map]
  · exact sortChunk_map lt f s.stash

theorem sortAll_map (lt : α → α → Bool) (f : β → α) (cap : Nat) (sp : Bool) (xs : List β) :
    sortAll lt cap sp (xs.map f) = (sortAll (comapLt lt f) cap sp xs).map f := by
  unfold sortAll
  have : ({ cap := cap, alwaysSpill := sp } : Sorter α)
      = mapSorter f { cap := cap, alwaysSpill := sp } := rfl
  rw [this, foldl_add_map, iter_map]

end SorterLemmas
