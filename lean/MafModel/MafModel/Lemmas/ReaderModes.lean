/-
  The whole-file reading under the three stringencies, related to the Silent run:
  Lenient is the Silent run plus log records; Strict is the Silent run up to its first error.
-/
import MafModel.Lemmas.ReaderLemmas
open Py
namespace Model

/-! ### non-format exceptions -/

theorem fieldStep_error_notFormat {C : Ctx} {sch : Option Scheme} {ln : Option Nat} {r : Record} {i : Nat}
    {name value : Text} {e : PyErr} (h : fieldStep C sch ln r i name value = .error e) : e.notFormat := by
  unfold fieldStep at h
  repeat' first | split at h | simp only [] at h
  all_goals cases h
  exact setItem_error_notFormat _ _ _ (by rw [‹Record.setItem _ _ _ = _›])

theorem foldl_fromLineStep_error_notFormat {C : Ctx} {sch : Option Scheme} {ln : Option Nat}
    (nvs : List (Text × Text)) (r : Record) (i : Nat) {e : PyErr}
    (h : nvs.foldl (fromLineStep C sch ln) (.ok (r, i)) = .error e) : e.notFormat := by
  have := foldl_fromLineStep_ind (C := C) (sch := sch) (ln := ln) (P := fun _ _ _ => True) (E := PyErr.notFormat)
    (fun nv _ r i _ => by
      split
      · trivial
      · exact fieldStep_error_notFormat ‹_›) nvs r i trivial
  rwa [h] at this

/-- **parsing never raises a `MafFormatException`**: the exception that aborts the
    stringency-independent parse of a line is a `ValueError`, `TypeError`, … (raised by `record[name] = column`) -/
theorem parsedLine_error_notFormat {C : Ctx} {line : Text} {cn : Option (List Text)} {sch : Option Scheme}
    {ln : Option Nat} {e : PyErr} (h : parsedLine C line cn sch ln = .error e) : e.notFormat := by
  unfold parsedLine at h
  split at h
  · rename_i e' hpre
    cases h
    unfold preRecord at hpre
    repeat' first | split at hpre | simp only [] at hpre
    all_goals cases hpre
    · exact trivial
    · exact foldl_fromLineStep_error_notFormat _ _ _ ‹_›
  · cases h

theorem Checker.addRecord_error_notFormat {c : Checker} {rec : Record} {e : PyErr}
    (h : c.addRecord rec = .error e) : e.notFormat := by
  rcases c.addRecord_cases rec with h' | ⟨_, _, h' | ⟨h', _⟩⟩ <;> rw [h'] at h
  · unfold Checker.add at h
    have hk : ∀ {l e}, mkKey c.order c.contigs l = .error e → e.notFormat := fun h => by
      rcases mkKey_error_kind h with rfl | rfl <;> exact trivial
    repeat' split at h
    all_goals cases h
    · exact hk ‹_›
    · exact hk ‹_›
    · cases keyLt_error_kind (by assumption); exact trivial
    · exact trivial
  · cases h
  · cases h; exact trivial

/-! ### the same reading under another stringency -/

/-- `rM` is the reader `rS` under stringency `m`: everything agrees but the stringency fields
    (and the log, which is accounted for separately) -/
structure ModeRel (m : Mode) (rS rM : Reader) : Prop where
  src : rM.src = rS.src
  pulled : rM.pulled = rS.pulled
  next : rM.next = rS.next
  lineNo : rM.lineNo = rS.lineNo
  header : rM.header = rS.header.withMode m
  scheme : rM.scheme = rS.scheme
  errors : rM.errors = rS.errors
  mode : rM.mode = m

theorem ModeRel.withMode (r : Reader) (m : Mode) (lg : List LogRec) : ModeRel m r (r.withMode m lg) :=
  ⟨rfl, rfl, rfl, rfl, rfl, rfl, rfl, rfl⟩

theorem ModeRel.step {m : Mode} {rS rM : Reader} (h : ModeRel m rS rM) (prec : Record)
    (lgS lgM : List LogRec) : ModeRel m (stepOf rS prec lgS) (stepOf rM prec lgM) := by
  constructor <;>
    simp [stepOf, advance_lineNo, h.src, h.pulled, h.lineNo, h.header, h.scheme, h.errors, h.mode]

theorem ModeRel.checker {m : Mode} {rS rM : Reader} (h : ModeRel m rS rM) (K : HConsts) :
    rM.checker K = rS.checker K := by
  unfold Reader.checker
  rw [h.header]
  rfl

theorem iterate_extends {C : Ctx} {K : HConsts} :
    ∀ (fuel : Nat) (r : Reader) (chk : Checker) (acc : List Record),
      ∃ more new, (Reader.iterate C K fuel r chk acc).1 = acc ++ more ∧
        (Reader.iterate C K fuel r chk acc).2.2.errors = r.errors ++ new := by
  intro fuel
  induction fuel with
  | zero => intro r chk acc; exact ⟨[], [], by simp [Reader.iterate], by simp [Reader.iterate]⟩
  | succ fuel ih =>
    intro r chk acc
    unfold Reader.iterate
    cases hnr : r.nextRecord C with
    | error e => exact ⟨[], [], by simp, by simp⟩
    | ok o =>
      cases o with
      | none => exact ⟨[], [], by simp, by simp⟩
      | some p =>
        obtain ⟨rec, r'⟩ := p
        obtain ⟨l, prec, lg, _, _, _, _, rfl⟩ := nextRecord_ok hnr
        simp only []
        cases chk.addRecord rec with
        | error e => exact ⟨[], _, by simp, stepOf_errors ..⟩
        | ok chk' =>
          obtain ⟨more, new, h1, h2⟩ := ih (stepOf r prec lg) chk' (acc ++ [rec])
          exact ⟨rec :: more, stamp r.lineNo prec.errors ++ new, by rw [h1]; simp, by rw [h2, stepOf_errors]; simp⟩

/-- **any stringency against Silent**, as long as `processErrors` lets the collected errors pass
    (always outside Strict mode; in Strict mode while the Silent run collects none): the same
    records (up to the stringency field), the same outcome, the same collected errors, and a log
    that grows by `errLogs m` of every newly collected error, in order -/
theorem iterate_rel {C : Ctx} {K : HConsts} {m : Mode} :
    ∀ (fuel : Nat) (rS rM : Reader) (chk : Checker) (acc : List Record),
      ModeRel m rS rM → rS.mode = .silent →
      ∀ S M, Reader.iterate C K fuel rS chk acc = S →
        Reader.iterate C K fuel rM chk (acc.map (·.withMode m)) = M →
        (m = .strict → S.2.2.errors = []) →
        M.1 = S.1.map (·.withMode m) ∧ M.2.1 = S.2.1 ∧ ModeRel m S.2.2 M.2.2 ∧
        ∃ new, S.2.2.errors = rS.errors ++ new ∧ M.2.2.logs = rM.logs ++ errLogs m new := by
  intro fuel
  induction fuel with
  | zero => rintro rS rM chk acc h _ _ _ rfl rfl _; exact ⟨rfl, rfl, h, [], by simp [Reader.iterate], by simp [Reader.iterate]⟩
  | succ fuel ih =>
    rintro rS rM chk acc h hS _ _ rfl rfl
    unfold Reader.iterate
    cases hn : rS.next with
    | none =>
      rw [nextRecord_none hn, nextRecord_none (h.next.trans hn)]
      exact fun _ => ⟨rfl, rfl, h, [], by simp, by simp⟩
    | some l =>
      rw [nextRecord_some hn, nextRecord_some (h.next.trans hn), h.scheme, h.lineNo, h.mode, hS]
      cases hp : parsedLine C l none rS.scheme (some rS.lineNo) with
      | error e => exact fun _ => ⟨rfl, rfl, h, [], by simp, by simp⟩
      | ok prec =>
        simp only [processErrors_silent]
        have hstep := stepOf_errors rS prec []
        have hpass : ∀ {es : List VErr}, (m = .strict → (stepOf rS prec []).errors ++ es = []) →
            processErrors m prec.errors = .ok (errLogs m prec.errors) := fun hfin =>
          processErrors_ok_iff.2 ⟨fun hm => (by simpa [hstep, stamp_eq_nil] using hfin hm : _ ∧ prec.errors = [] ∧ _).2.1, rfl⟩
        have hrel := h.step prec [] (errLogs m prec.errors)
        -- the order checker does not see the stringency field
        have hchk : chk.addRecord (recOf m rS.lineNo prec) = chk.addRecord (recOf .silent rS.lineNo prec) := rfl
        cases hadd : chk.addRecord (recOf .silent rS.lineNo prec) with
        | error e =>
          intro hfin
          rw [hpass (es := []) (by simpa using hfin)]
          simp only []
          rw [hchk, hadd]
          exact ⟨rfl, rfl, hrel, _, hstep, by simp [stepOf, errLogs_stamp]⟩
        | ok chk' =>
          intro hfin
          obtain ⟨more, new, _, hnew⟩ := iterate_extends (C := C) (K := K) fuel (stepOf rS prec []) chk'
            (acc ++ [recOf .silent rS.lineNo prec])
          simp only [] at hfin
          rw [hpass (es := new) (by rw [← hnew]; exact hfin)]
          simp only []
          rw [hchk, hadd]
          have hacc : acc.map (·.withMode m) ++ [recOf m rS.lineNo prec]
              = (acc ++ [recOf .silent rS.lineNo prec]).map (·.withMode m) := by
            simp [recOf_withMode]
          rw [hacc]
          obtain ⟨h1, h2, h3, new', h4, h5⟩ := ih (stepOf rS prec []) (stepOf rM prec (errLogs m prec.errors))
            chk' (acc ++ [recOf .silent rS.lineNo prec]) hrel ((stepOf_mode ..).trans hS) _ _ rfl rfl hfin
          refine ⟨h1, h2, h3, stamp rS.lineNo prec.errors ++ new', by rw [h4, hstep, List.append_assoc], ?_⟩
          rw [h5]
          simp [stepOf, errLogs_append, errLogs_stamp]

/-- **Strict against Silent**, from a state without errors: as soon as the Silent run collects an
    error, the Strict run raises exactly that first error (type and line number) and has yielded
    the records before it -/
theorem iterate_strict_raises {C : Ctx} {K : HConsts} :
    ∀ (fuel : Nat) (rS rT : Reader) (chk : Checker) (acc : List Record),
      ModeRel .strict rS rT → rS.mode = .silent → rS.errors = [] →
      ∀ S T, Reader.iterate C K fuel rS chk acc = S →
        Reader.iterate C K fuel rT chk (acc.map (·.withMode .strict)) = T →
        ∀ e es, S.2.2.errors = e :: es →
          T.2.1 = some (.format e.tpe e.line) ∧
          ∃ k, k ≤ S.1.length ∧ T.1 = (S.1.take k).map (·.withMode .strict) := by
  intro fuel
  induction fuel with
  | zero => rintro rS rT chk acc h hS hE _ _ rfl rfl e es he; exact absurd (hE.symm.trans he) nofun
  | succ fuel ih =>
    rintro rS rT chk acc h hS hE _ _ rfl rfl e es
    -- the Silent run has to get past this line to collect anything
    have hstop : ∀ {r : Reader}, r.errors = [] → r.errors = e :: es → False :=
      fun h1 h2 => absurd (h1.symm.trans h2) nofun
    unfold Reader.iterate
    cases hn : rS.next with
    | none => rw [nextRecord_none hn]; exact fun he => (hstop hE he).elim
    | some l =>
      rw [nextRecord_some hn, nextRecord_some (h.next.trans hn), h.scheme, h.lineNo, h.mode, hS]
      cases hp : parsedLine C l none rS.scheme (some rS.lineNo) with
      | error e' => exact fun he => (hstop hE he).elim
      | ok prec =>
        simp only [processErrors_silent]
        have hstep : (stepOf rS prec []).errors = stamp rS.lineNo prec.errors := by simp [hE]
        cases hpe : prec.errors with
        | nil =>
          rw [hpe] at hstep
          simp only [processErrors_nil]
          rw [show chk.addRecord (recOf .strict rS.lineNo prec) = chk.addRecord (recOf .silent rS.lineNo prec) from rfl]
          cases chk.addRecord (recOf .silent rS.lineNo prec) with
          | error e' => exact fun he => (hstop (r := stepOf rS prec []) hstep he).elim
          | ok chk' =>
            have hacc : acc.map (·.withMode .strict) ++ [recOf .strict rS.lineNo prec]
                = (acc ++ [recOf .silent rS.lineNo prec]).map (·.withMode .strict) := by
              simp [recOf_withMode]
            simp only []
            rw [hacc]
            exact ih _ _ chk' _ (h.step prec [] []) ((stepOf_mode ..).trans hS) hstep _ _ rfl rfl e es
        | cons x xs =>
          simp only [processErrors_strict_cons]
          -- the Silent run goes on; its error list now starts with (the stamped) `x`
          suffices hfirst : ∀ res : List Record × Option PyErr × Reader,
              (∃ more new, res.1 = acc ++ more ∧ res.2.2.errors = (stepOf rS prec []).errors ++ new) →
              res.2.2.errors = e :: es →
                some (PyErr.format x.tpe x.line) = some (.format e.tpe e.line) ∧
                ∃ k, k ≤ res.1.length ∧
                  acc.map (·.withMode .strict) = (res.1.take k).map (·.withMode .strict) by
            cases chk.addRecord (recOf .silent rS.lineNo prec) with
            | error e' => exact hfirst _ ⟨[], [], by simp, by simp⟩
            | ok chk' =>
              obtain ⟨more, new, h1, h2⟩ := iterate_extends (C := C) (K := K) fuel (stepOf rS prec []) chk'
                (acc ++ [recOf .silent rS.lineNo prec])
              exact hfirst _ ⟨recOf .silent rS.lineNo prec :: more, new, by rw [h1]; simp, h2⟩
          rintro res ⟨more, new, h1, h2⟩ he
          rw [h2, hstep, hpe] at he
          cases he
          exact ⟨rfl, acc.length, by rw [h1]; simp, by rw [h1, List.take_left' rfl]⟩

/-! ### `Reader.init` under the three stringencies -/

theorem init_none (C : Ctx) (K : HConsts) (R : Registry) (lines : List Text) (given : Option Scheme) :
    Reader.init C K R lines none given = .ok (silentReader K R lines given) :=
  init_silent C K R lines given

/-- **construction under any stringency against Silent**, as long as `processErrors` lets the
    collected errors pass: the Silent reader under that stringency, and what it has logged — the
    header's warnings (emitted by `MafHeader.from_lines`), `NO_MATCHING_SCHEME_WARNING`, then the
    warnings of the accumulated list, header errors included a second time -/
theorem init_rel (C : Ctx) (K : HConsts) (R : Registry) (lines : List Text) (given : Option Scheme)
    {m : Mode} (h : m = .strict → (silentReader K R lines given).errors = []) :
    ∃ rM, Reader.init C K R lines (some m) given = .ok rM ∧
      ModeRel m (silentReader K R lines given) rM ∧
      rM.logs = errLogs m (parsedHeader K R (headerBlock K lines)).errors ++
        warnOf K R lines given m ++ errLogs m (silentReader K R lines given).errors := by
  have h' : m = .strict → (parsedHeader K R (headerBlock K lines)).errors = [] :=
    fun hm => (List.append_eq_nil_iff.1 (h hm)).1
  rw [init_eq]
  simp only [modeOrSilent, processErrors_ok_iff.2 ⟨h, rfl⟩, processErrors_ok_iff.2 ⟨h', rfl⟩]
  exact ⟨_, rfl, ModeRel.withMode .., rfl⟩

theorem init_strict_error (C : Ctx) (K : HConsts) (R : Registry) (lines : List Text) (given : Option Scheme)
    {e : VErr} {es : List VErr} (he : (silentReader K R lines given).errors = e :: es) :
    Reader.init C K R lines (some .strict) given = .error (.format e.tpe e.line) := by
  rw [init_eq, he]
  simp only [modeOrSilent, processErrors_strict_cons]
  -- the header's own errors come first in the accumulated list
  have he : (parsedHeader K R (headerBlock K lines)).errors ++ _ = e :: es := he
  cases h1 : (parsedHeader K R (headerBlock K lines)).errors with
  | nil => rfl
  | cons x xs => rw [h1] at he; cases he; rfl

/-! ### `readAll` under the three stringencies -/

theorem readAll_rel {C : Ctx} {K : HConsts} {m : Mode} {rS rM : Reader}
    (h : ModeRel m rS rM) (hS : rS.mode = .silent) {S M : List Record × Option PyErr × Reader}
    (hS' : rS.readAll C K = S) (hM : rM.readAll C K = M) (hpass : m = .strict → S.2.2.errors = []) :
    M.1 = S.1.map (·.withMode m) ∧ M.2.1 = S.2.1 ∧ ModeRel m S.2.2 M.2.2 ∧
    ∃ new, S.2.2.errors = rS.errors ++ new ∧ M.2.2.logs = rM.logs ++ errLogs m new := by
  unfold Reader.readAll at hS' hM
  rw [h.checker K, h.src] at hM
  exact iterate_rel _ rS rM _ [] h hS S M hS' hM hpass

theorem readAll_strict_raises {C : Ctx} {K : HConsts} {rS rT : Reader}
    (h : ModeRel .strict rS rT) (hS : rS.mode = .silent) (hE : rS.errors = [])
    {S T : List Record × Option PyErr × Reader} (hS' : rS.readAll C K = S) (hT : rT.readAll C K = T)
    {e : VErr} {es : List VErr} (he : S.2.2.errors = e :: es) :
    T.2.1 = some (.format e.tpe e.line) ∧
    ∃ k, k ≤ S.1.length ∧ T.1 = (S.1.take k).map (·.withMode .strict) := by
  unfold Reader.readAll at hS' hT
  rw [h.checker K, h.src] at hT
  exact iterate_strict_raises _ rS rT _ [] h hS hE S T hS' hT e es he

theorem iterate_nonstrict_notFormat {C : Ctx} {K : HConsts} (fuel : Nat) (r : Reader) (chk : Checker)
    (acc : List Record) (hf : (pending r).length < fuel) (hm : r.mode ≠ .strict) :
    ∀ res, Reader.iterate C K fuel r chk acc = res → ∀ e, res.2.1 = some e → e.notFormat := by
  refine iterate_induction (C := C) (K := K)
    (P := fun r' _ _ => r'.mode = r.mode)
    (fun _ _ _ _ _ _ => nofun) ?_ ?_ ?_ fuel r chk acc hf rfl
  · rintro r' chk' acc' e hmode hnr _ ⟨⟩
    cases hn : r'.next with
    | none => rw [nextRecord_none hn] at hnr; cases hnr
    | some l =>
      rw [nextRecord_some hn] at hnr
      split at hnr
      · cases hnr; exact parsedLine_error_notFormat ‹_›
      · rw [processErrors_nonstrict (hmode ▸ hm)] at hnr
        cases hnr
  · rintro r' chk' acc' rec r'' e _ _ hadd _ ⟨⟩
    exact Checker.addRecord_error_notFormat hadd
  · intro r' chk' acc' rec r'' chk'' hmode hnr _
    obtain ⟨l, prec, lg, _, _, _, _, rfl⟩ := nextRecord_ok hnr
    exact (stepOf_mode ..).trans hmode

end Model
