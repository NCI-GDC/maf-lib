/-
  Lemmas for C14, about `combine_columns`, `build_scheme_class` and the loop of `build_schemes`
  (`maflib/scheme_factory.py`) and about `extend_class` (`maflib/util.py`).  With distinct column
  names every dictionary operation of `combine_columns` is a list operation (`combineColumns_eq`),
  and the result is `Spec.applyDef`, in names and, read back through the class table, in classes.
  The loop is treated once, for an arbitrary invariant (`buildSchemesAux_rule`, `C14.LoopInv`),
  and then at `C14.EntryOK`.
-/
import MafModel.Spec.Layout
open Py Model

namespace SchemeLemmas

/-! ### lookup of a key that occurs once -/

theorem inj_of_nodup_map {α κ} (key : α → κ) {l : List α} (h : (l.map key).Nodup) :
    ∀ a ∈ l, ∀ b ∈ l, key a = key b → a = b :=
  have hp : l.Pairwise (fun a b => key a ≠ key b) := List.pairwise_map.1 h
  fun _ ha _ hb => List.Pairwise.forall_of_forall_of_flip (R := fun a b => key a = key b → a = b)
    (fun _ _ _ => rfl) (hp.imp fun hne e => absurd e hne) (hp.imp fun hne e => absurd e.symm hne) ha hb

theorem find?_of_unique {α} {l : List α} {p : α → Bool} {a : α} (ha : a ∈ l) (hpa : p a = true)
    (hu : ∀ b ∈ l, p b = true → b = a) : l.find? p = some a := by
  cases h : l.find? p with
  | none => rw [List.find?_eq_none] at h; exact absurd hpa (h a ha)
  | some b => rw [hu b (List.mem_of_find?_eq_some h) (List.find?_some h)]

theorem find?_key {α} (key : α → String) {l : List α} (hnd : (l.map key).Nodup) {a : α} (ha : a ∈ l) :
    l.find? (fun x => key x == key a) = some a :=
  find?_of_unique ha (beq_self_eq_true _) fun b hb hk =>
    inj_of_nodup_map key hnd b hb a ha (eq_of_beq hk)

theorem find?_perm_of_unique {α} {l l' : List α} (hp : l.Perm l') {p : α → Bool}
    (hu : ∀ a ∈ l, ∀ b ∈ l, p a = true → p b = true → a = b) : l.find? p = l'.find? p := by
  cases h : l.find? p with
  | none =>
    rw [List.find?_eq_none] at h
    exact (List.find?_eq_none.2 fun x hx => h x (hp.mem_iff.2 hx)).symm
  | some a =>
    have ha := List.mem_of_find?_eq_some h
    have hpa := List.find?_some h
    exact (find?_of_unique (hp.mem_iff.1 ha) hpa fun b hb hpb => hu b (hp.mem_iff.2 hb) a ha hpb hpa).symm

theorem perm_cons_eraseIdx {α} {l : List α} {i : Nat} {a : α} (h : l[i]? = some a) :
    (a :: l.eraseIdx i).Perm l := by
  induction l generalizing i with
  | nil => simp at h
  | cons x l ih =>
    cases i with
    | zero => simp at h; subst h; simp
    | succ i =>
      simp only [List.getElem?_cons_succ] at h
      simp only [List.eraseIdx_cons_succ]
      exact (List.Perm.swap x a _).trans ((ih h).cons x)

theorem map_fst_filter {β} (q : String → Bool) (l : List (String × β)) :
    (l.filter (fun c => q c.1)).map (·.1) = (l.map (·.1)).filter q := by
  rw [List.filter_map]; rfl

/-! ### distinctness of strings, for evaluation by the kernel -/

/-- a number for a string that the kernel computes quickly: its UTF-8 bytes as digits -/
def strKey (s : String) : Nat := s.toByteArray.data.toList.foldl (fun a b => a * 256 + b.toNat) 0

def nodupB : List Nat → Bool
  | [] => true
  | a :: l => !(l.any (Nat.beq a)) && nodupB l

theorem nodup_of_nodupB {l : List Nat} (h : nodupB l = true) : l.Nodup := by
  induction l with
  | nil => exact List.nodup_nil
  | cons a l ih =>
    rw [nodupB, Bool.and_eq_true, Bool.not_eq_true', List.any_eq_false] at h
    exact List.nodup_cons.2 ⟨fun ha => h.1 a ha (Nat.beq_refl a), ih h.2⟩

/-- Distinctness of strings, decided for evaluation by the kernel: strings with distinct numbers
    are distinct (whatever `strKey` is), and comparing numbers is many times cheaper than
    comparing string literals; should two numbers coincide, the strings are compared. -/
def decNodupStr (l : List String) : Decidable l.Nodup :=
  if h : nodupB (l.map strKey) = true then
    isTrue (List.Pairwise.of_map strKey (fun _ _ hne e => hne (e ▸ rfl)) (nodup_of_nodupB h))
  else List.nodupDecidable l

/-! ### Python dictionaries as association lists -/

section Dict
variable {β : Type}

theorem dictGet_eq_none_iff (d : List (String × β)) (k : String) :
    dictGet d k = none ↔ k ∉ d.map (·.1) := by
  simp only [dictGet, Option.map_eq_none_iff, List.find?_eq_none, List.mem_map, beq_iff_eq,
    not_exists, not_and]

theorem dictGet_isSome_iff (d : List (String × β)) (k : String) :
    (dictGet d k).isSome = true ↔ k ∈ d.map (·.1) := by
  rw [Option.isSome_iff_ne_none, ne_eq, dictGet_eq_none_iff, Classical.not_not]

theorem dictGet_isNone_iff (d : List (String × β)) (k : String) :
    (dictGet d k).isNone = true ↔ k ∉ d.map (·.1) := by
  rw [Option.isNone_iff_eq_none, dictGet_eq_none_iff]

theorem mem_of_dictGet {d : List (String × β)} {k : String} {v : β} (h : dictGet d k = some v) :
    (k, v) ∈ d := by
  obtain ⟨p, hf, rfl⟩ := Option.map_eq_some_iff.1 h
  have := List.find?_some hf
  rw [beq_iff_eq] at this
  exact this ▸ List.mem_of_find?_eq_some hf

theorem key_mem_of_dictGet {d : List (String × β)} {k : String} {v : β} (h : dictGet d k = some v) :
    k ∈ d.map (·.1) :=
  List.mem_map.2 ⟨_, mem_of_dictGet h, rfl⟩

theorem dictGet_of_mem_nodup {d : List (String × β)} {k : String} {v : β}
    (hnd : (d.map (·.1)).Nodup) (h : (k, v) ∈ d) : dictGet d k = some v :=
  congrArg (Option.map fun p : String × β => p.2) (find?_key (fun p : String × β => p.1) hnd h)

theorem dictGet_append_of_not_mem (d : List (String × β)) (k : String) (v : β) (k' : String)
    (hk : k ∉ d.map (·.1)) :
    dictGet (d ++ [(k, v)]) k' = if k' = k then some v else dictGet d k' := by
  unfold dictGet
  rw [List.find?_append]
  by_cases e : k' = k
  · subst e
    have : List.find? (fun p => p.1 == k') d = none := by
      rw [List.find?_eq_none]
      intro p hp hpk
      simp only [beq_iff_eq] at hpk
      exact hk (List.mem_map.2 ⟨p, hp, hpk⟩)
    simp [this]
  · have hb : (k == k') = false := by simpa using fun h => e h.symm
    simp [e, hb]

theorem dictSet_of_not_mem {d : List (String × β)} {k : String} (v : β) (h : k ∉ d.map (·.1)) :
    dictSet d k v = d ++ [(k, v)] := by
  have : d.any (fun p => p.1 == k) = false := by
    simpa only [List.any_eq_false, beq_iff_eq, List.mem_map, not_exists, not_and] using h
  simp only [dictSet, this, Bool.false_eq_true, if_false]

theorem dictSet_of_mem {d : List (String × β)} {k : String} (v : β) (h : k ∈ d.map (·.1)) :
    dictSet d k v = d.map (fun p => if p.1 == k then (k, v) else p) := by
  have : d.any (fun p => p.1 == k) = true := by
    simpa only [List.any_eq_true, beq_iff_eq, List.mem_map] using h
  simp only [dictSet, this, if_true]

theorem dictSet_names_of_mem {d : List (String × β)} {k : String} (v : β) (h : k ∈ d.map (·.1)) :
    (dictSet d k v).map (·.1) = d.map (·.1) := by
  rw [dictSet_of_mem v h, List.map_map]
  apply List.map_congr_left
  intro p _
  simp only [Function.comp]
  split
  · rename_i e; exact (eq_of_beq e).symm
  · rfl

theorem dictGet_dictSet_self (d : List (String × β)) (k : String) (v : β) :
    dictGet (dictSet d k v) k = some v := by
  by_cases h : k ∈ d.map (·.1)
  · obtain ⟨q, hq⟩ : ∃ q, d.find? (fun p => p.1 == k) = some q := by
      obtain ⟨p, hp, hpk⟩ := List.mem_map.1 h
      exact Option.isSome_iff_exists.1 (List.find?_isSome.2 ⟨p, hp, beq_iff_eq.2 hpk⟩)
    have : ((fun p : String × β => p.1 == k) ∘ fun p => if p.1 == k then (k, v) else p) = fun p => p.1 == k := by
      funext p
      by_cases e : p.1 = k <;> simp [e]
    rw [dictSet_of_mem v h, dictGet, List.find?_map, this, hq]
    simp only [Option.map_some, List.find?_some hq, if_true]
  · rw [dictSet_of_not_mem v h, dictGet_append_of_not_mem d k v k h, if_pos rfl]

theorem foldl_dictSet_fresh (l d : List (String × β))
    (hl : (l.map (·.1)).Nodup) (hd : ∀ k ∈ l.map (·.1), k ∉ d.map (·.1)) :
    l.foldl (fun d p => dictSet d p.1 p.2) d = d ++ l := by
  induction l generalizing d with
  | nil => simp
  | cons p l ih =>
    simp only [List.map_cons, List.nodup_cons] at hl
    rw [List.foldl_cons, dictSet_of_not_mem _ (hd p.1 (by simp)), ih _ hl.2, List.append_assoc]
    · rfl
    · intro k hk
      simp only [List.map_append, List.map_cons, List.map_nil, List.mem_append, List.mem_singleton, not_or]
      exact ⟨hd k (by simp [hk]), fun e => hl.1 (e ▸ hk)⟩

theorem dictOfList_nodup (l : List (String × β)) (hl : (l.map (·.1)).Nodup) : dictOfList l = l := by
  unfold dictOfList
  rw [foldl_dictSet_fresh l [] hl (by simp), List.nil_append]

end Dict

/-! ### `combine_columns` -/

/-- `st1` is `st` after some calls of `extend_class`: classes appended, mix-in order kept -/
def Ext (st st1 : BuildState) : Prop := (∃ ext, st1.tbl = st.tbl ++ ext) ∧ st1.order = st.order

theorem Ext.refl (st : BuildState) : Ext st st := ⟨⟨[], (List.append_nil _).symm⟩, rfl⟩

theorem Ext.trans {a b c : BuildState} (h1 : Ext a b) (h2 : Ext b c) : Ext a c := by
  obtain ⟨⟨e1, h1⟩, o1⟩ := h1
  obtain ⟨⟨e2, h2⟩, o2⟩ := h2
  exact ⟨⟨e1 ++ e2, by rw [h2, h1, List.append_assoc]⟩, o2.trans o1⟩

def mixUid (ann : String) (ex : String × String) (bcls : String) (k : Nat) : String :=
  "(" ++ ex.2 ++ "+" ++ bcls ++ ")@" ++ ann ++ "#" ++ ex.1 ++ "#" ++ toString k

/-- one step of the first loop of `combine_columns` (the model's own lambda) -/
def mixStep (ann : String) (acc : BuildState × List (String × String) × Nat) (ex : String × String) :
    BuildState × List (String × String) × Nat :=
  match dictGet acc.2.1 ex.1 with
  | some bcls =>
    ({ acc.1 with tbl := acc.1.tbl ++ [extendClass acc.1.order (mixUid ann ex bcls acc.2.2) bcls ex.2 (pyNameOf acc.1.tbl bcls)] },
      dictSet acc.2.1 ex.1 (mixUid ann ex bcls acc.2.2), acc.2.2 + 1)
  | none => (acc.1, acc.2.1, acc.2.2 + 1)

/-- the first loop of `combine_columns`, from an accumulator (state, columns, counter) -/
def mixFold (ann : String) (extra : List (String × String)) (acc : BuildState × List (String × String) × Nat) :
    BuildState × List (String × String) × Nat :=
  extra.foldl (mixStep ann) acc

/-- the end of `combine_columns`: the `filtered` names must exist and are removed -/
def finishCols (cols2 : List (String × String)) (st1 : BuildState) (filtered : Option (List String)) :
    Except PyErr (BuildState × List (String × String)) :=
  match filtered with
  | none => .ok (st1, cols2)
  | some f =>
    if f.any (fun n => (dictGet cols2 n).isNone) then .error .value
    else .ok (st1, cols2.filter (fun p => !f.contains p.1))

theorem combineColumns_def (st : BuildState) (ann : String) (base extra : List (String × String))
    (filtered : Option (List String)) :
    combineColumns st ann base extra filtered =
      finishCols (List.foldl (fun d p => dictSet d p.1 p.2) (mixFold ann extra (st, dictOfList base, 0)).2.1
          (extra.filter (fun ex => (dictGet (mixFold ann extra (st, dictOfList base, 0)).2.1 ex.1).isNone)))
        (mixFold ann extra (st, dictOfList base, 0)).1 filtered := by
  rfl

/-- a redefinition of an inherited column of class `bcls` appends one class, `extend_class` of the
    two, and puts it in the column's place -/
theorem mixStep_some {ann : String} {acc : BuildState × List (String × String) × Nat} {ex : String × String}
    {bcls : String} (h : dictGet acc.2.1 ex.1 = some bcls) :
    mixStep ann acc ex =
      ({ acc.1 with tbl := acc.1.tbl ++
          [extendClass acc.1.order (mixUid ann ex bcls acc.2.2) bcls ex.2 (pyNameOf acc.1.tbl bcls)] },
        dictSet acc.2.1 ex.1 (mixUid ann ex bcls acc.2.2), acc.2.2 + 1) := by
  rw [mixStep, h]

theorem mixStep_none {ann : String} {acc : BuildState × List (String × String) × Nat} {ex : String × String}
    (h : dictGet acc.2.1 ex.1 = none) : mixStep ann acc ex = (acc.1, acc.2.1, acc.2.2 + 1) := by
  rw [mixStep, h]

theorem mixStep_inv (ann : String) (acc) (ex : String × String) :
    (mixStep ann acc ex).2.1.map (·.1) = acc.2.1.map (·.1) ∧ Ext acc.1 (mixStep ann acc ex).1 := by
  cases h : dictGet acc.2.1 ex.1 with
  | some bcls =>
    rw [mixStep_some h]
    exact ⟨dictSet_names_of_mem _ (key_mem_of_dictGet h), ⟨_, rfl⟩, rfl⟩
  | none =>
    rw [mixStep_none h]
    exact ⟨rfl, Ext.refl _⟩

theorem mixFold_cons (ann : String) (x : String × String) (xs : List (String × String)) (acc) :
    mixFold ann (x :: xs) acc = mixFold ann xs (mixStep ann acc x) :=
  rfl

theorem mixFold_inv (ann : String) (extra : List (String × String)) (acc) :
    (mixFold ann extra acc).2.1.map (·.1) = acc.2.1.map (·.1) ∧ Ext acc.1 (mixFold ann extra acc).1 := by
  induction extra generalizing acc with
  | nil => exact ⟨rfl, Ext.refl _⟩
  | cons x xs ih =>
    rw [mixFold_cons]
    have h1 := mixStep_inv ann acc x
    have h2 := ih (mixStep ann acc x)
    exact ⟨h2.1.trans h1.1, h1.2.trans h2.2⟩

/-- all column names of a derived layout before filtering -/
def allNames (bn : List String) (ex : List (String × String)) : List String :=
  bn ++ (ex.map (·.1)).filter (fun n => !bn.contains n)

def layoutNames (bn : List String) (ex : List (String × String)) (filt : Option (List String)) : List String :=
  match filt with
  | none => allNames bn ex
  | some f => (allNames bn ex).filter (fun n => !f.contains n)

def filtOK (bn : List String) (ex : List (String × String)) (filt : Option (List String)) : Bool :=
  match filt with
  | none => true
  | some f => f.all (fun n => (allNames bn ex).contains n)

theorem nodup_layoutNames {bn : List String} {ex : List (String × String)} (filt)
    (hb : bn.Nodup) (hex : (ex.map (·.1)).Nodup) : (layoutNames bn ex filt).Nodup := by
  have : (allNames bn ex).Nodup := by
    refine List.nodup_append.2 ⟨hb, hex.filter _, fun a ha b hb' e => ?_⟩
    simp only [List.mem_filter, List.contains_eq_mem, Bool.not_eq_eq_eq_not, Bool.not_true,
      decide_eq_false_iff_not] at hb'
    exact hb'.2 (e ▸ ha)
  unfold layoutNames
  split
  · exact this
  · exact this.filter _

def applyFilt {β} (filt : Option (List String)) (cols2 : List (String × β)) : List (String × β) :=
  match filt with
  | none => cols2
  | some f => cols2.filter (fun p => !f.contains p.1)

theorem applyFilt_names {β} (filt : Option (List String)) (cols2 : List (String × β)) (bn ex)
    (h : cols2.map (·.1) = allNames bn ex) :
    (applyFilt filt cols2).map (·.1) = layoutNames bn ex filt := by
  unfold applyFilt layoutNames
  split
  · exact h
  · rename_i f
    rw [map_fst_filter (fun n => !f.contains n), h]

theorem finishCols_cases (cols2 : List (String × String)) (st1 : BuildState) (filt) :
    finishCols cols2 st1 filt = .error .value ∨ ∃ cols, finishCols cols2 st1 filt = .ok (st1, cols) := by
  unfold finishCols
  split
  · exact .inr ⟨_, rfl⟩
  · split
    · exact .inl rfl
    · exact .inr ⟨_, rfl⟩

theorem finishCols_eq (cols2 : List (String × String)) (st1 : BuildState) (filt : Option (List String))
    (bn ex) (h : cols2.map (·.1) = allNames bn ex) :
    finishCols cols2 st1 filt =
      if filtOK bn ex filt then .ok (st1, applyFilt filt cols2) else .error .value := by
  unfold finishCols filtOK applyFilt
  split
  · rfl
  · rename_i f
    have : f.any (fun n => (dictGet cols2 n).isNone) = !f.all (fun n => (allNames bn ex).contains n) := by
      rw [List.all_eq_not_any_not, Bool.not_not]
      congr 1
      funext n
      rw [Bool.eq_iff_iff, dictGet_isNone_iff, h]
      simp
    rw [this]
    cases f.all (fun n => (allNames bn ex).contains n) <;> rfl

theorem append_fresh_names {cols1 base extra : List (String × String)} (hn : cols1.map (·.1) = base.map (·.1)) :
    (cols1 ++ extra.filter (fun c => !(base.map (·.1)).contains c.1)).map (·.1) = allNames (base.map (·.1)) extra := by
  rw [List.map_append, hn, map_fst_filter (fun n => !(base.map (·.1)).contains n)]
  rfl

/-- `combine_columns` after its first loop has turned the base columns into `cols1`, keeping their
    names: the columns not yet in the dictionary are those not in the base, and setting them
    appends them. -/
theorem finishCols_fresh {cols1 base extra : List (String × String)} (st1 : BuildState) (filtered)
    (hn : cols1.map (·.1) = base.map (·.1)) (hex : (extra.map (·.1)).Nodup) :
    finishCols (List.foldl (fun d p => dictSet d p.1 p.2) cols1
        (extra.filter (fun ex => (dictGet cols1 ex.1).isNone))) st1 filtered =
      if filtOK (base.map (·.1)) extra filtered then
        .ok (st1, applyFilt filtered (cols1 ++ extra.filter (fun c => !(base.map (·.1)).contains c.1)))
      else .error .value := by
  have hfil : extra.filter (fun ex => (dictGet cols1 ex.1).isNone)
      = extra.filter (fun c => !(base.map (·.1)).contains c.1) := by
    apply List.filter_congr
    intro c _
    rw [Bool.eq_iff_iff, dictGet_isNone_iff, hn]
    simp
  have hnew : ∀ k ∈ (extra.filter (fun c => !(base.map (·.1)).contains c.1)).map (·.1),
      k ∉ cols1.map (·.1) := by
    intro k hk
    rw [map_fst_filter (fun n => !(base.map (·.1)).contains n)] at hk
    rw [hn]
    simpa using (List.mem_filter.1 hk).2
  rw [hfil, foldl_dictSet_fresh _ _ _ hnew]
  · exact finishCols_eq _ _ _ _ _ (append_fresh_names hn)
  · rw [map_fst_filter (fun n => !(base.map (·.1)).contains n)]
    exact hex.filter _

/-- What `combine_columns` returns when the filtered names exist: the state after the mixing loop,
    and the (mixed) base columns followed by the new columns, without the filtered ones. -/
def combined (st : BuildState) (ann : String) (base extra : List (String × String))
    (filtered : Option (List String)) : BuildState × List (String × String) :=
  ((mixFold ann extra (st, base, 0)).1,
    applyFilt filtered ((mixFold ann extra (st, base, 0)).2.1 ++
      extra.filter (fun c => !(base.map (·.1)).contains c.1)))

theorem combined_names (st : BuildState) (ann : String) (base extra : List (String × String)) (filtered) :
    (combined st ann base extra filtered).2.map (·.1) = layoutNames (base.map (·.1)) extra filtered :=
  applyFilt_names _ _ _ _ (append_fresh_names (mixFold_inv ann extra (st, base, 0)).1)

/-- `combine_columns` with every dictionary operation resolved -/
theorem combineColumns_eq (st : BuildState) (ann : String) (base extra : List (String × String))
    (filtered : Option (List String))
    (hb : (base.map (·.1)).Nodup) (hex : (extra.map (·.1)).Nodup) :
    combineColumns st ann base extra filtered =
      if filtOK (base.map (·.1)) extra filtered then .ok (combined st ann base extra filtered)
      else .error .value := by
  rw [combineColumns_def, dictOfList_nodup base hb]
  exact finishCols_fresh _ _ (mixFold_inv ann extra (st, base, 0)).1 hex

theorem combineColumns_names {st : BuildState} {ann : String} {base extra : List (String × String)}
    {filtered : Option (List String)} {st1 cols}
    (hb : (base.map (·.1)).Nodup) (hex : (extra.map (·.1)).Nodup)
    (h : combineColumns st ann base extra filtered = .ok (st1, cols)) :
    filtOK (base.map (·.1)) extra filtered = true ∧
      cols.map (·.1) = layoutNames (base.map (·.1)) extra filtered := by
  rw [combineColumns_eq st ann base extra filtered hb hex] at h
  split at h
  · rename_i hf
    cases h
    exact ⟨hf, combined_names st ann base extra filtered⟩
  · cases h

/-! ### `build_scheme_class` -/

theorem buildSchemeClass_cases (st : BuildState) (d : SchemeDef) (base : Option Scheme) :
    buildSchemeClass st d base = .error .value ∨
    ∃ st1 cols, buildSchemeClass st d base =
      .ok (st1, { version := d.version, annotation := d.annotation, cols := cols }) ∧ Ext st st1 := by
  unfold buildSchemeClass
  cases base with
  | none => exact .inr ⟨_, _, rfl, Ext.refl _⟩
  | some b =>
    simp only []
    rw [combineColumns_def]
    rcases finishCols_cases _ _ _ with h | ⟨cols, h⟩
    · rw [h]; exact .inl rfl
    · rw [h]; exact .inr ⟨_, _, rfl, (mixFold_inv _ _ _).2⟩

theorem buildSchemeClass_some_eq (st : BuildState) (d : SchemeDef) (sb : Scheme)
    (hb : (sb.cols.map (·.1)).Nodup) (hex : (d.columns.map (·.1)).Nodup) :
    buildSchemeClass st d (some sb) =
      if filtOK (sb.cols.map (·.1)) d.columns d.filtered then
        .ok ((combined st d.annotation sb.cols d.columns d.filtered).1,
          { version := d.version, annotation := d.annotation,
            cols := (combined st d.annotation sb.cols d.columns d.filtered).2 })
      else .error .value := by
  unfold buildSchemeClass
  simp only []
  rw [combineColumns_eq st d.annotation sb.cols d.columns d.filtered hb hex]
  cases filtOK (sb.cols.map (·.1)) d.columns d.filtered <;> rfl

/-! ### the declarative layout -/

/-- the overriding half of `Spec.applyDef` -/
def overrideCols (bl : Spec.Layout) (cols : List (String × String)) : Spec.Layout :=
  bl.map (fun p =>
    match List.find? (fun c => c.1 == p.1) cols with
    | some c => (p.1, Spec.ColType.mixed c.2 p.2)
    | none => p)

def freshCols (bl : Spec.Layout) (cols : List (String × String)) : Spec.Layout :=
  (cols.filter (fun c => !(bl.map (·.1)).contains c.1)).map (fun c => (c.1, Spec.ColType.named c.2))

theorem applyDef_eq (bl : Spec.Layout) (d : SchemeDef) :
    Spec.applyDef bl d = applyFilt d.filtered (overrideCols bl d.columns ++ freshCols bl d.columns) := by
  have : ∀ n, bl.any (fun p => p.1 == n) = (bl.map (·.1)).contains n := by
    intro n
    rw [List.contains_eq_any_beq, List.any_map]
    exact congrArg bl.any (funext fun p => BEq.comm)
  unfold Spec.applyDef applyFilt overrideCols freshCols
  simp only [this]
  cases d.filtered <;> rfl

theorem overrideCols_names (bl : Spec.Layout) (cols : List (String × String)) :
    (overrideCols bl cols).map (·.1) = bl.map (·.1) := by
  unfold overrideCols
  rw [List.map_map]
  apply List.map_congr_left
  intro p _
  simp only [Function.comp]
  split <;> rfl

theorem applyDef_names (bl : Spec.Layout) (d : SchemeDef) :
    (Spec.applyDef bl d).map (·.1) = layoutNames (bl.map (·.1)) d.columns d.filtered := by
  rw [applyDef_eq]
  apply applyFilt_names
  rw [List.map_append, overrideCols_names, freshCols, List.map_map, allNames,
    ← map_fst_filter (fun n => !(bl.map (·.1)).contains n)]
  rfl

theorem findDef_some {ds : List SchemeDef} {a : String} {d : SchemeDef} (h : Spec.findDef ds a = some d) :
    d ∈ ds ∧ d.annotation = a := by
  unfold Spec.findDef at h
  exact ⟨List.mem_of_find?_eq_some h, by simpa using List.find?_some h⟩

theorem findDef_of_mem {ds : List SchemeDef} (hnd : (ds.map (·.annotation)).Nodup) {d : SchemeDef}
    (hd : d ∈ ds) : Spec.findDef ds d.annotation = some d :=
  find?_key (fun d : SchemeDef => d.annotation) hnd hd

theorem findDef_eq_none {ds : List SchemeDef} {a : String} :
    Spec.findDef ds a = none ↔ a ∉ ds.map (·.annotation) := by
  unfold Spec.findDef
  rw [List.find?_eq_none]
  simp only [List.mem_map, beq_iff_eq, not_exists, not_and]

theorem resolve_undefined {ds : List SchemeDef} {a : String} (h : Spec.findDef ds a = none) (n : Nat) :
    Spec.resolve ds n a = none := by
  cases n with
  | zero => rfl
  | succ n => rw [Spec.resolve, h]

theorem resolve_root {ds : List SchemeDef} {a : String} {d : SchemeDef} (hfd : Spec.findDef ds a = some d)
    (hb : d.hasBase = none) (n : Nat) :
    Spec.resolve ds (n + 1) a = some (d.columns.map (fun c => (c.1, Spec.ColType.named c.2))) := by
  rw [Spec.resolve, hfd]
  simp only [hb]

theorem resolve_derived {ds : List SchemeDef} {a b : String} {d : SchemeDef}
    (hfd : Spec.findDef ds a = some d) (hb : d.hasBase = some b) (n : Nat) :
    Spec.resolve ds (n + 1) a = (Spec.resolve ds n b).map (fun bl => Spec.applyDef bl d) := by
  rw [Spec.resolve, hfd]
  simp only [hb]

theorem resolve_mono (ds : List SchemeDef) {n m : Nat} (hnm : n ≤ m) {a : String} {l : Spec.Layout}
    (h : Spec.resolve ds n a = some l) : Spec.resolve ds m a = some l := by
  fun_induction Spec.resolve ds n a generalizing m l with
  | case1 => cases h
  | case2 => cases h
  | case3 n a d hfd hb =>
    obtain ⟨m, rfl⟩ := Nat.exists_eq_add_one_of_ne_zero (Nat.ne_zero_of_lt hnm)
    rw [resolve_root hfd hb]; exact h
  | case4 n a d hfd b hb ih =>
    obtain ⟨m, rfl⟩ := Nat.exists_eq_add_one_of_ne_zero (Nat.ne_zero_of_lt hnm)
    obtain ⟨bl, hbl, rfl⟩ := Option.map_eq_some_iff.1 h
    rw [resolve_derived hfd hb, ih (Nat.le_of_succ_le_succ hnm) hbl]
    rfl

theorem resolve_nodup {ds : List SchemeDef} (hcols : ∀ d ∈ ds, (d.columns.map (·.1)).Nodup)
    {n : Nat} {a : String} {l : Spec.Layout} (h : Spec.resolve ds n a = some l) :
    (l.map (·.1)).Nodup := by
  fun_induction Spec.resolve ds n a generalizing l with
  | case1 => cases h
  | case2 => cases h
  | case3 n a d hfd hb =>
    cases h
    rw [List.map_map]
    exact hcols d (findDef_some hfd).1
  | case4 n a d hfd b hb ih =>
    obtain ⟨bl, hbl, rfl⟩ := Option.map_eq_some_iff.1 h
    rw [applyDef_names]
    exact nodup_layoutNames _ (ih hbl) (hcols d (findDef_some hfd).1)

/-! ### the declarative layout depends on the set of definitions only -/

theorem findDef_perm {ds ds' : List SchemeDef} (hp : ds.Perm ds') (hnd : (ds.map (·.annotation)).Nodup)
    (a : String) : Spec.findDef ds a = Spec.findDef ds' a :=
  find?_perm_of_unique hp fun x hx y hy hxa hya =>
    inj_of_nodup_map (·.annotation) hnd x hx y hy
      ((eq_of_beq hxa).trans (eq_of_beq hya).symm)

theorem resolve_perm {ds ds' : List SchemeDef} (hp : ds.Perm ds') (hnd : (ds.map (·.annotation)).Nodup)
    (n : Nat) (a : String) : Spec.resolve ds n a = Spec.resolve ds' n a := by
  induction n generalizing a with
  | zero => rfl
  | succ n ih => simp only [Spec.resolve, findDef_perm hp hnd a, ih]

theorem layoutOf_perm {ds ds' : List SchemeDef} (hp : ds.Perm ds') (hnd : (ds.map (·.annotation)).Nodup)
    (a : String) : Spec.layoutOf ds a = Spec.layoutOf ds' a := by
  unfold Spec.layoutOf
  rw [hp.length_eq]
  exact resolve_perm hp hnd _ a

/-! ### lookup in a class table that grows -/

theorem find_eq_none {tbl : ClassTable} {c : String} (h : c ∉ tbl.map (·.name)) : tbl.find c = none :=
  List.find?_eq_none.2 fun e he hn => h (List.mem_map.2 ⟨e, he, eq_of_beq hn⟩)

theorem find_append_of_some {tbl ext : ClassTable} {c : String} {e : ClassEntry}
    (h : tbl.find c = some e) : ClassTable.find (tbl ++ ext) c = some e := by
  unfold ClassTable.find at *
  rw [List.find?_append, h]; rfl

theorem find_snoc (tbl : ClassTable) (e : ClassEntry) (c : String) :
    ClassTable.find (tbl ++ [e]) c = (tbl.find c).or (if e.name == c then some e else none) := by
  unfold ClassTable.find
  rw [List.find?_append, List.find?_singleton]

theorem find_new {tbl : ClassTable} {e : ClassEntry} (h : e.name ∉ tbl.map (·.name)) :
    ClassTable.find (tbl ++ [e]) e.name = some e := by
  rw [find_snoc, find_eq_none h, beq_self_eq_true]; rfl

theorem nodup_of_append_map {tbl ext : ClassTable} (h : ((tbl ++ ext).map (·.name)).Nodup) :
    (tbl.map (·.name)).Nodup := by
  rw [List.map_append, List.nodup_append] at h
  exact h.1

/-! ### MRO of a synthesised class -/

theorem c3merge_fuel {f : Nat} {seqs : List (List String)} {r : List String}
    (h : c3merge f seqs = some r) : r.length + 1 ≤ f ∧ ∀ f', f ≤ f' → c3merge f' seqs = some r := by
  induction f generalizing seqs r with
  | zero => simp [c3merge] at h
  | succ f ih =>
    unfold c3merge at h
    simp only [] at h
    split at h
    · rename_i he
      cases h
      refine ⟨by simp, fun f' hf => ?_⟩
      obtain ⟨f', rfl⟩ := Nat.exists_eq_add_one_of_ne_zero (Nat.ne_zero_of_lt hf)
      rw [c3merge]; simp only [he, if_true]
    · rename_i he
      split at h
      · cases h
      · rename_i hd hs
        obtain ⟨r', hr', rfl⟩ := Option.map_eq_some_iff.1 h
        obtain ⟨hlen, hmono⟩ := ih hr'
        refine ⟨by simp only [List.length_cons]; omega, fun f' hf => ?_⟩
        obtain ⟨f', rfl⟩ := Nat.exists_eq_add_one_of_ne_zero (Nat.ne_zero_of_lt hf)
        rw [c3merge]; simp only [he, hs, hmono f' (Nat.le_of_succ_le_succ hf)]
        rfl

theorem mapM_option_congr {α β} {f g : α → Option β} {l : List α} {ls : List β}
    (h : l.mapM f = some ls) (hfg : ∀ a ∈ l, ∀ b, f a = some b → g a = some b) :
    l.mapM g = some ls := by
  induction l generalizing ls with
  | nil => simpa using h
  | cons a l ih =>
    rw [List.mapM_cons] at h ⊢
    cases hfa : f a with
    | none => rw [hfa] at h; cases h
    | some b =>
      rw [hfa] at h
      rw [hfg a (by simp) b hfa]
      cases hl : l.mapM f with
      | none => rw [hl] at h; cases h
      | some bs =>
        rw [hl] at h
        rw [ih hl (fun a' ha' => hfg a' (by simp [ha']))]
        exact h

theorem mro_succ_eq_some {tbl : ClassTable} {n : Nat} {c : String} {m : List String} :
    mro tbl (n + 1) c = some m ↔ ∃ e ls r, tbl.find c = some e ∧ e.bases.mapM (mro tbl n) = some ls ∧
      c3merge (tbl.length * tbl.length + 8) (ls ++ [e.bases]) = some r ∧ m = c :: r := by
  rw [mro]
  constructor
  · intro h
    split at h
    · cases h
    · rename_i e hf
      split at h
      · cases h
      · rename_i ls hm
        obtain ⟨r, hr, rfl⟩ := Option.map_eq_some_iff.1 h
        exact ⟨e, ls, r, hf, hm, hr, rfl⟩
  · rintro ⟨e, ls, r, hf, hm, hr, rfl⟩
    simp only [hf, hm, hr, Option.map_some]

theorem mro_append {tbl ext : ClassTable} {n n' : Nat} {c : String} {m : List String}
    (h : mro tbl n c = some m) (hn : n ≤ n') : mro (tbl ++ ext) n' c = some m := by
  induction n generalizing n' c m with
  | zero => cases h
  | succ n ih =>
    obtain ⟨n', rfl⟩ := Nat.exists_eq_add_one_of_ne_zero (Nat.ne_zero_of_lt hn)
    obtain ⟨e, ls, r, hf, hm, hr, rfl⟩ := mro_succ_eq_some.1 h
    refine mro_succ_eq_some.2 ⟨e, ls, r, find_append_of_some hf,
      mapM_option_congr hm fun a _ b hb => ih hb (Nat.le_of_succ_le_succ hn), (c3merge_fuel hr).2 _ ?_, rfl⟩
    rw [List.length_append]
    exact Nat.add_le_add_right (Nat.mul_le_mul (Nat.le_add_right _ _) (Nat.le_add_right _ _)) 8

theorem mroOf_append {tbl : ClassTable} (ext : ClassTable) {c : String} {m : List String}
    (h : mroOf tbl c = some m) : mroOf (tbl ++ ext) c = some m := by
  unfold mroOf at *
  exact mro_append h (by simp)

theorem c3merge_filter (f : Nat) (seqs : List (List String)) :
    c3merge f (seqs.filter (fun s => !s.isEmpty)) = c3merge f seqs := by
  cases f with
  | zero => rfl
  | succ f =>
    unfold c3merge
    simp only [List.filter_filter, Bool.and_self]

theorem nodup_cons_snoc {a M : String} {l : List String} (h : (a :: l ++ [M]).Nodup) :
    a ≠ M ∧ a ∉ l ∧ (l ++ [M]).Nodup := by
  rw [List.cons_append, List.nodup_cons, List.mem_append, List.mem_singleton, not_or] at h
  exact ⟨h.1.2, h.1.1, h.2⟩

/-- One round of `c3merge` on `[M]` (a mix-in's MRO without its head) and `a :: l` (the MRO of
    a base, ending in `M`), possibly with the rest `[a]` of the list of bases: `M` is in the tail
    `l`, so the first head in no tail is `a`. -/
theorem c3merge_round (f : Nat) {M a : String} {l : List String} (hM : M ∈ l) (haM : a ≠ M) (ha : a ∉ l)
    (more : List (List String)) (hmore : more = [] ∨ more = [[a]]) :
    c3merge (f + 1) ([M] :: (a :: l) :: more) = (c3merge f [[M], l]).map (a :: ·) := by
  have hdrop : c3merge f [[M], l, []] = c3merge f [[M], l] := by
    rw [← c3merge_filter, ← c3merge_filter f [[M], l]]
    simp [List.ne_nil_of_mem hM]
  rw [c3merge]
  rcases hmore with rfl | rfl <;> simp [hM, Ne.symm haM, ha, hdrop]

theorem c3_two (M : String) : ∀ (l0 : List String) (f : Nat), (l0 ++ [M]).Nodup → l0.length + 2 ≤ f →
    c3merge f [[M], l0 ++ [M]] = some (l0 ++ [M]) := by
  intro l0
  induction l0 with
  | nil =>
    intro f _ hf
    obtain ⟨f, rfl⟩ : ∃ k, f = k + 2 := ⟨f - 2, by simp at hf; omega⟩
    simp [c3merge, List.findSome?_cons]
  | cons a l0 ih =>
    intro f hnd hf
    obtain ⟨f, rfl⟩ : ∃ k, f = k + 1 := ⟨f - 1, by simp at hf; omega⟩
    obtain ⟨haM, ha, hnd'⟩ := nodup_cons_snoc hnd
    rw [List.cons_append, c3merge_round f (by simp) haM (by simp [ha, haM]) [] (.inl rfl),
      ih f hnd' (by simp at hf ⊢; omega)]
    rfl

/-- the merge of `mroOf_extend` when the mix-in `R` has MRO `[R, M]` and the base has MRO `l0 ++ [M]`
    (the base is the head of its own MRO) -/
theorem c3_extend (R M : String) (l0 : List String) (hnd : (l0 ++ [M]).Nodup) (hR : R ∉ l0 ++ [M])
    (f : Nat) (hf : l0.length + 4 ≤ f) :
    c3merge f [[R, M], l0 ++ [M], [R, (l0 ++ [M]).head (by simp)]] = some (R :: (l0 ++ [M])) := by
  obtain ⟨f, rfl⟩ : ∃ k, f = k + 2 := ⟨f - 2, by omega⟩
  have hRM : R ≠ M := by intro e; apply hR; simp [e]
  cases l0 with
  | nil =>
    obtain ⟨f, rfl⟩ : ∃ k, f = k + 1 := ⟨f - 1, by simp at hf; omega⟩
    simp [c3merge, hRM, Ne.symm hRM, List.findSome?_cons]
  | cons a l0 =>
    obtain ⟨haM, ha, hnd'⟩ := nodup_cons_snoc hnd
    have hRa : R ≠ a := by intro e; apply hR; simp [e]
    have hRl : R ∉ l0 := by intro e; apply hR; simp [e]
    -- first round: `R` is in no tail
    have round : c3merge (f + 1 + 1) [[R, M], a :: (l0 ++ [M]), [R, a]] =
        (c3merge (f + 1) [[M], a :: (l0 ++ [M]), [a]]).map (R :: ·) := by
      rw [c3merge]
      simp [hRM, hRa, Ne.symm hRa, hRl]
    simp only [List.cons_append, List.head_cons]
    rw [round, c3merge_round f (by simp) haM (by simp [ha, haM]) [[a]] (.inr rfl),
      c3_two M l0 f hnd' (by simp at hf ⊢; omega)]
    rfl

theorem mroOf_shape {tbl : ClassTable} {c : String} {m : List String} (h : mroOf tbl c = some m) :
    (∃ r, m = c :: r) ∧ m.length ≤ tbl.length * tbl.length + 8 ∧ 1 ≤ tbl.length := by
  obtain ⟨e, ls, r, hf, -, hr, rfl⟩ := mro_succ_eq_some.1 h
  refine ⟨⟨r, rfl⟩, (c3merge_fuel hr).1, ?_⟩
  cases tbl with
  | nil => cases hf
  | cons _ _ => simp

theorem mroOf_extend {tbl : ClassTable} {uid b x nm : String} {mx mb : List String}
    (hfresh : uid ∉ tbl.map (·.name)) (hx : mroOf tbl x = some mx) (hb : mroOf tbl b = some mb) :
    mroOf (tbl ++ [extendClass [1, 0] uid b x nm]) uid =
      (c3merge ((tbl.length + 1) * (tbl.length + 1) + 8) [mx, mb, [x, b]]).map (uid :: ·) := by
  unfold mroOf at *
  rw [show (tbl ++ [extendClass [1, 0] uid b x nm]).length + 1 = (tbl.length + 1) + 1 by simp]
  have hfind : ClassTable.find (tbl ++ [extendClass [1, 0] uid b x nm]) uid
      = some (extendClass [1, 0] uid b x nm) :=
    find_new (e := extendClass [1, 0] uid b x nm) hfresh
  rw [mro, hfind]
  simp only [show (extendClass [1, 0] uid b x nm).bases = [x, b] from rfl]
  have h1 := mro_append (ext := [extendClass [1, 0] uid b x nm]) hx (Nat.le_refl _)
  have h2 := mro_append (ext := [extendClass [1, 0] uid b x nm]) hb (Nat.le_refl _)
  simp only [List.mapM_cons, List.mapM_nil, h1, h2]
  simp

/-- C3 for a mix-in `x` that derives directly from the root (`RequireNullValue` from `MafColumnRecord`),
    over a base whose MRO ends in that root: `x` comes right after the new class. -/
theorem mroOf_extend_mask {tbl : ClassTable} {uid b x root nm : String} {pre : List String}
    (hfresh : uid ∉ tbl.map (·.name)) (hx : mroOf tbl x = some [x, root])
    (hb : mroOf tbl b = some (pre ++ [root])) (hnd : (pre ++ [root]).Nodup) (hxb : x ∉ pre ++ [root]) :
    mroOf (tbl ++ [extendClass [1, 0] uid b x nm]) uid = some (uid :: x :: (pre ++ [root])) := by
  rw [mroOf_extend hfresh hx hb]
  obtain ⟨⟨r, hr⟩, hlen, h1⟩ := mroOf_shape hb
  have hhead : b = (pre ++ [root]).head (by simp) := by
    simp only [hr, List.head_cons]
  have := c3_extend x root pre hnd hxb ((tbl.length + 1) * (tbl.length + 1) + 8) (by
    simp only [List.length_append, List.length_singleton] at hlen
    have : (tbl.length + 1) * (tbl.length + 1) = tbl.length * tbl.length + 2 * tbl.length + 1 := by
      rw [Nat.add_mul, Nat.mul_add]; omega
    omega)
  rw [← hhead] at this
  rw [this]; rfl

/-- appending a class that looks, to `F`, like no class at all does not change what `F` sees -/
theorem find_snoc_neutral {γ} (F : Option ClassEntry → γ) (tbl : ClassTable) {e : ClassEntry}
    (he : F (some e) = F none) (c : String) : F (ClassTable.find (tbl ++ [e]) c) = F (tbl.find c) := by
  rw [find_snoc]
  cases tbl.find c with
  | some e' => rfl
  | none => cases h : e.name == c <;> simp only [Option.none_or, if_true, Bool.false_eq_true, if_false, he]

theorem hookChain_extend (tbl : ClassTable) (e : ClassEntry) (he : e.hooks = []) (m : List String)
    (hook : String) : hookChain (tbl ++ [e]) m hook = hookChain tbl m hook :=
  List.filter_congr fun c _ => find_snoc_neutral
    (fun o => match o with | some e => e.hooks.contains hook | none => false) tbl (by simp [he]) c

theorem firstConst_extend {α} (tbl : ClassTable) (e : ClassEntry) (f : ClassEntry → Option α)
    (he : f e = none) (m : List String) : firstConst (tbl ++ [e]) m f = firstConst tbl m f :=
  congrArg (m.findSome? ·) (funext fun c => find_snoc_neutral (·.bind f) tbl he c)

/-- The `super()` chain of a class made by `extend_class` (no methods of its own), whose MRO
    goes on with `x`: `x` if it defines the hook, then the chain of the rest. -/
theorem hookChain_mix {tbl : ClassTable} {uid x : String} {eX : ClassEntry} (o : List Nat) (b y nm : String)
    (hfresh : uid ∉ tbl.map (·.name)) (hfind : tbl.find x = some eX) (m : List String) (hook : String) :
    hookChain (tbl ++ [extendClass o uid b y nm]) (uid :: x :: m) hook =
      (if eX.hooks.contains hook then [x] else []) ++ hookChain tbl m hook := by
  rw [hookChain_extend _ _ rfl]
  simp only [hookChain, List.filter_cons, find_eq_none hfresh, hfind, Bool.false_eq_true, if_false]
  split <;> rfl

theorem firstConst_mix {α} {tbl : ClassTable} {uid x : String} {eX : ClassEntry} (o : List Nat) (b y nm : String)
    (hfresh : uid ∉ tbl.map (·.name)) (hfind : tbl.find x = some eX) (m : List String)
    (f : ClassEntry → Option α) (hf : f (extendClass o uid b y nm) = none) :
    firstConst (tbl ++ [extendClass o uid b y nm]) (uid :: x :: m) f = (f eX).or (firstConst tbl m f) := by
  rw [firstConst_extend _ _ _ hf]
  simp only [firstConst, List.findSome?_cons, find_eq_none hfresh, hfind, Option.bind_none, Option.bind_some]
  cases f eX <;> rfl

/-! ### the `build_schemes` loop -/

/-- the local `ready` of `buildSchemesAux`: `not d.extends or d.extends in schemes` -/
def readyB (built : List (String × Scheme)) (d : SchemeDef) : Bool :=
  match d.hasBase with
  | none => true
  | some b => (dictGet built b).isSome

theorem buildSchemesAux_cons (fuel : Nat) (st : BuildState) (x : SchemeDef) (xs : List SchemeDef)
    (built : List (String × Scheme)) :
    buildSchemesAux (fuel + 1) st (x :: xs) built =
      match (x :: xs).findIdx? (readyB built) with
      | none => .error .value
      | some i =>
        match (x :: xs)[i]? with
        | none => .error (.unmodelled "index")
        | some d =>
          match buildSchemeClass st d (d.hasBase.bind (dictGet built)) with
          | .error e => .error e
          | .ok (st', s) => buildSchemesAux fuel st' ((x :: xs).eraseIdx i) (dictSet built s.annotation s) := by
  rfl

/-- the loop cannot go on: something is left to build, and no definition is ready or the first
    ready one does not build -/
def Stuck (st : BuildState) (data : List SchemeDef) (built : List (String × Scheme)) : Prop :=
  data ≠ [] ∧ ∀ i d, data.findIdx? (readyB built) = some i → data[i]? = some d →
    buildSchemeClass st d (d.hasBase.bind (dictGet built)) = .error .value

/-- How the loop ends, for an invariant `Inv`: with `Inv` and nothing left to build, or with
    `ValueError` from a stuck state with `Inv`.  The model's own errors (fuel, index) are no outcome. -/
inductive Outcome (Inv : BuildState → List SchemeDef → List (String × Scheme) → Prop) :
    Except PyErr (BuildState × List (String × Scheme)) → Prop
  | done {r} : Inv r.1 [] r.2 → Outcome Inv (.ok r)
  | stuck {st data built} : Inv st data built → Stuck st data built → Outcome Inv (.error .value)

theorem Outcome.inv {Inv x r} (h : Outcome Inv x) (hx : x = .ok r) : Inv r.1 [] r.2 := by
  subst hx
  cases h
  assumption

theorem Outcome.ok_or_value {Inv x} : Outcome Inv x → (∃ r, x = .ok r) ∨ x = .error .value
  | .done _ => .inl ⟨_, rfl⟩
  | .stuck _ _ => .inr rfl

theorem Outcome.ok_of_not_stuck {Inv x} (hns : ∀ st data built, Inv st data built → ¬ Stuck st data built) :
    Outcome Inv x → ∃ r, x = .ok r
  | .done _ => ⟨_, rfl⟩
  | .stuck hinv hs => absurd hs (hns _ _ _ hinv)

/-- The loop with enough fuel, for an invariant `Inv` kept by every step (a step builds a scheme
    with the definition's version and annotation and only appends to the class table). -/
theorem buildSchemesAux_rule (Inv : BuildState → List SchemeDef → List (String × Scheme) → Prop)
    (hstep : ∀ st data built i d st1 cols, Inv st data built →
      data.findIdx? (readyB built) = some i → data[i]? = some d →
      buildSchemeClass st d (d.hasBase.bind (dictGet built)) =
        .ok (st1, { version := d.version, annotation := d.annotation, cols := cols }) → Ext st st1 →
      Inv st1 (data.eraseIdx i)
        (dictSet built d.annotation { version := d.version, annotation := d.annotation, cols := cols }))
    (fuel : Nat) (st : BuildState) (data : List SchemeDef) (built : List (String × Scheme))
    (hf : data.length ≤ fuel) (hinv : Inv st data built) :
    Outcome Inv (buildSchemesAux fuel st data built) := by
  induction fuel generalizing st data built with
  | zero =>
    cases data with
    | nil => exact .done hinv
    | cons x xs => simp at hf
  | succ fuel ih =>
    cases data with
    | nil => exact .done hinv
    | cons x xs =>
      rw [buildSchemesAux_cons]
      cases hi : (x :: xs).findIdx? (readyB built) with
      | none => exact .stuck hinv ⟨List.cons_ne_nil _ _, fun i d h => by rw [hi] at h; cases h⟩
      | some i =>
        have hlt : i < (x :: xs).length := (List.findIdx?_eq_some_iff_getElem.1 hi).1
        have hd := List.getElem?_eq_getElem hlt
        simp only [hd]
        rcases buildSchemeClass_cases st (x :: xs)[i] ((x :: xs)[i].hasBase.bind (dictGet built))
          with h | ⟨st1, cols, h, hext⟩
        · rw [h]
          refine .stuck hinv ⟨List.cons_ne_nil _ _, fun i' d hi' hd' => ?_⟩
          rw [hi] at hi'; cases hi'
          rw [hd] at hd'; cases hd'
          exact h
        · rw [h]
          refine ih _ _ _ ?_ (hstep _ _ _ i _ _ _ hinv hi hd h hext)
          rw [List.length_eraseIdx_of_lt hlt]
          simp only [List.length_cons] at hf ⊢
          omega

end SchemeLemmas

/-! ### C14 definitions and the loop invariant -/
namespace C14
open SchemeLemmas

theorem getElem_of_getElem? {α} {l : List α} {i : Nat} {a : α} (h : l[i]? = some a) : a ∈ l :=
  List.mem_of_getElem? h

/-- well-formed definition set: annotations pairwise distinct, column names distinct
    within each definition, no empty annotation -/
def DefsOK (ds : List SchemeDef) : Prop :=
  (ds.map (·.annotation)).Nodup ∧ (∀ d ∈ ds, (d.columns.map (·.1)).Nodup) ∧ (∀ d ∈ ds, d.annotation ≠ "")

instance (ds : List SchemeDef) : Decidable (DefsOK ds) := by
  unfold DefsOK
  letI := decNodupStr
  infer_instance

/-- `a`'s `extends` chain stays inside `ds` and ends within `ds.length` steps -/
def grounded (ds : List SchemeDef) (a : String) : Prop := Spec.layoutOf ds a ≠ none

instance (ds : List SchemeDef) (a : String) : Decidable (grounded ds a) := by unfold grounded; infer_instance

/-- every `filtered` name of `d` exists in the layout it is applied to (vacuous when
    `d` has no base or the base does not resolve) -/
def filterOKd (ds : List SchemeDef) (d : SchemeDef) : Bool :=
  match d.hasBase with
  | none => true
  | some b =>
    match Spec.layoutOf ds b with
    | none => true
    | some bl => filtOK (bl.map (·.1)) d.columns d.filtered

def FiltersOK (ds : List SchemeDef) : Prop := ∀ d ∈ ds, filterOKd ds d = true

instance (ds : List SchemeDef) : Decidable (FiltersOK ds) := by unfold FiltersOK; infer_instance

/-- what the loop records of the scheme `s` it has built for the definition `d`, besides the
    property `Q` under study -/
structure BuiltFor (Q : SchemeDef → Scheme → Prop) (d : SchemeDef) (s : Scheme) : Prop where
  version : s.version = d.version
  annotation : s.annotation = d.annotation
  /-- `s` is not the no-restrictions pseudo-scheme -/
  proper : s.noRestrictions = false
  prop : Q d s

/-- Invariant of the `build_schemes` loop started in `st0` on `ds`: the class table has only grown,
    the keys built so far and the annotations still to build make up those of `ds`, and every
    built scheme is `BuiltFor` its definition, with `P st n` for the property (`st` the current
    state, `n` the number of schemes built). -/
structure LoopInv (ds : List SchemeDef) (P : BuildState → Nat → SchemeDef → Scheme → Prop)
    (st0 st : BuildState) (data : List SchemeDef) (built : List (String × Scheme)) : Prop where
  ext : Ext st0 st
  perm : (built.map (·.1) ++ data.map (·.annotation)).Perm (ds.map (·.annotation))
  sub : ∀ d ∈ data, d ∈ ds
  ok : ∀ p ∈ built, ∃ d ∈ ds, d.annotation = p.1 ∧ BuiltFor (P st built.length) d p.2

section LoopInv
variable {ds : List SchemeDef} {P : BuildState → Nat → SchemeDef → Scheme → Prop} {st0 st : BuildState}
  {data : List SchemeDef} {built : List (String × Scheme)}

theorem LoopInv.length (h : LoopInv ds P st0 st data built) : built.length + data.length = ds.length := by
  simpa using h.perm.length_eq

theorem LoopInv.step (hnd : (ds.map (·.annotation)).Nodup)
    (hmono : ∀ {st st1 n d s}, Ext st st1 → P st n d s → P st1 (n + 1) d s)
    (hinv : LoopInv ds P st0 st data built) {i : Nat} {d : SchemeDef} {st1 : BuildState} {cols}
    (hd : data[i]? = some d) (hext : Ext st st1)
    (hP : P st1 (built.length + 1) d { version := d.version, annotation := d.annotation, cols := cols }) :
    LoopInv ds P st0 st1 (data.eraseIdx i)
      (dictSet built d.annotation { version := d.version, annotation := d.annotation, cols := cols }) := by
  have hdm : d ∈ data := List.mem_of_getElem? hd
  -- the annotation is still to build, so it is not a key yet and `dictSet` appends
  have hfresh : d.annotation ∉ built.map (·.1) := fun hmem =>
    (List.nodup_append.1 (hinv.perm.nodup_iff.2 hnd)).2.2 _ hmem _ (List.mem_map.2 ⟨d, hdm, rfl⟩) rfl
  rw [dictSet_of_not_mem _ hfresh]
  refine ⟨hinv.ext.trans hext, ?_, fun x hx => hinv.sub x (List.mem_of_mem_eraseIdx hx), ?_⟩
  · refine List.Perm.trans ?_ hinv.perm
    rw [List.map_append, List.append_assoc]
    exact ((perm_cons_eraseIdx hd).map (·.annotation)).append_left _
  · intro p hp
    rw [List.length_append, List.length_singleton]
    rcases List.mem_append.1 hp with hp | hp
    · obtain ⟨d', hd', hkey, hB⟩ := hinv.ok p hp
      exact ⟨d', hd', hkey, { hB with prop := hmono hext hB.prop }⟩
    · cases List.mem_singleton.1 hp
      exact ⟨d, hinv.sub d hdm, rfl, rfl, rfl, rfl, hP⟩

theorem LoopInv.entry (hnd : (ds.map (·.annotation)).Nodup) (hinv : LoopInv ds P st0 st [] built)
    {d : SchemeDef} (hd : d ∈ ds) :
    ∃ s, dictGet built d.annotation = some s ∧ BuiltFor (P st ds.length) d s := by
  have hperm : (built.map (·.1)).Perm (ds.map (·.annotation)) := by simpa using hinv.perm
  obtain ⟨p, hp, hpa⟩ := List.mem_map.1 (hperm.mem_iff.2 (List.mem_map.2 ⟨d, hd, rfl⟩))
  obtain ⟨d', hd', hkey, hB⟩ := hinv.ok p hp
  cases inj_of_nodup_map (·.annotation) hnd d' hd' d hd (hkey.trans hpa)
  have hlen : built.length = ds.length := by simpa using hinv.length
  exact ⟨p.2, dictGet_of_mem_nodup (hperm.nodup_iff.2 hnd) (hpa ▸ hp), hlen ▸ hB⟩

/-- `buildSchemesAux_rule` at `LoopInv`: for a given `P` there remain `hmono` and `hstep`. -/
theorem LoopInv.run (hnd : (ds.map (·.annotation)).Nodup)
    (hmono : ∀ {st st1 n d s}, Ext st st1 → P st n d s → P st1 (n + 1) d s)
    (hstep : ∀ {st data built d st1 s}, LoopInv ds P st0 st data built → d ∈ ds → readyB built d = true →
      buildSchemeClass st d (d.hasBase.bind (dictGet built)) = .ok (st1, s) → Ext st st1 →
      P st1 (built.length + 1) d s) :
    Outcome (LoopInv ds P st0) (buildSchemes st0 ds) :=
  buildSchemesAux_rule (LoopInv ds P st0)
    (fun st data built i d st1 cols hinv hi hd hb hext => by
      obtain ⟨h, hp, _⟩ := List.findIdx?_eq_some_iff_getElem.1 hi
      cases (List.getElem?_eq_getElem h).symm.trans hd
      exact hinv.step hnd hmono hd hext (hstep hinv (hinv.sub _ (List.getElem_mem h)) hp hb hext))
    _ st0 ds [] (Nat.le_refl _) ⟨Ext.refl _, by simp, fun _ h => h, by simp⟩

end LoopInv

/-! ### class level: reading synthesised classes back -/

/-- read a (possibly synthesised) column class back as a `Spec.ColType`: a class
    made by `extend_class` (it carries a `display` name) with bases `[extra, base]`
    is `mixed extra (type of base)`; any other known class is `named`. -/
def typeOfClassAux (tbl : ClassTable) : Nat → String → Option Spec.ColType
  | 0, _ => none
  | n + 1, c =>
    match tbl.find c with
    | none => none
    | some e =>
      match e.display with
      | none => some (.named c)
      | some _ =>
        match e.bases with
        | [x, b] => (typeOfClassAux tbl n b).map (Spec.ColType.mixed x)
        | _ => none

def typeOfClass (tbl : ClassTable) (c : String) : Option Spec.ColType :=
  typeOfClassAux tbl (tbl.length + 1) c

theorem typeOfClassAux_mono {tbl ext : ClassTable} {n m : Nat} (hnm : n ≤ m) {c : String} {t}
    (h : typeOfClassAux tbl n c = some t) : typeOfClassAux (tbl ++ ext) m c = some t := by
  fun_induction typeOfClassAux tbl n c generalizing m t with
  | case1 => cases h
  | case2 => cases h
  | case3 n c e hf hdsp =>
    obtain ⟨m, rfl⟩ := Nat.exists_eq_add_one_of_ne_zero (Nat.ne_zero_of_lt hnm)
    rw [typeOfClassAux, find_append_of_some hf]
    simp only [hdsp]; exact h
  | case4 n c e hf nm hdsp x b hbs ih =>
    obtain ⟨m, rfl⟩ := Nat.exists_eq_add_one_of_ne_zero (Nat.ne_zero_of_lt hnm)
    obtain ⟨t', ht', rfl⟩ := Option.map_eq_some_iff.1 h
    rw [typeOfClassAux, find_append_of_some hf]
    simp only [hdsp, hbs, ih (Nat.le_of_succ_le_succ hnm) ht', Option.map_some]
  | case5 => cases h

theorem typeOfClass_append {tbl : ClassTable} (ext : ClassTable) {c : String} {t}
    (h : typeOfClass tbl c = some t) : typeOfClass (tbl ++ ext) c = some t :=
  typeOfClassAux_mono (by simp) h

theorem typeOfClass_new {tbl : ClassTable} {e : ClassEntry} {x b nm : String} {t}
    (hfresh : e.name ∉ tbl.map (·.name)) (hd : e.display = some nm) (hb : e.bases = [x, b])
    (ht : typeOfClass tbl b = some t) :
    typeOfClass (tbl ++ [e]) e.name = some (.mixed x t) := by
  have h1 : typeOfClassAux (tbl ++ [e]) (tbl.length + 1) b = some t := typeOfClassAux_mono (Nat.le_refl _) ht
  rw [typeOfClass, show (tbl ++ [e]).length + 1 = (tbl.length + 1) + 1 by simp, typeOfClassAux, find_new hfresh]
  simp only [hd, hb, h1, Option.map_some]

theorem typeOfClass_plain {tbl : ClassTable} (hplain : ∀ e ∈ tbl, e.display = none) {c : String}
    (hc : (tbl.find c).isSome = true) : typeOfClass tbl c = some (.named c) := by
  obtain ⟨e, hf⟩ := Option.isSome_iff_exists.1 hc
  rw [typeOfClass, typeOfClassAux, hf]
  simp only [hplain e (List.mem_of_find?_eq_some hf)]

/-- `cols.map (rd tbl) = bl.map sp`: the columns `cols` have the names of the layout `bl`, and
    their classes read back as its types.  For the columns of a scheme this is `readLayout`
    (`Props/C14.lean`, `readLayout_eq`); `sp` is the `fun q => (q.1, some q.2)` of `class_layout`. -/
def rd (tbl : ClassTable) (q : String × String) : String × Option Spec.ColType := (q.1, typeOfClass tbl q.2)
def sp (q : String × Spec.ColType) : String × Option Spec.ColType := (q.1, some q.2)

theorem rel_names {tbl} {cols : List (String × String)} {bl : Spec.Layout}
    (h : cols.map (rd tbl) = bl.map sp) : cols.map (·.1) = bl.map (·.1) := by
  have := congrArg (List.map (·.1)) h
  rwa [List.map_map, List.map_map] at this

theorem rel_some {tbl} {cols : List (String × String)} {bl : Spec.Layout}
    (h : cols.map (rd tbl) = bl.map sp) {q} (hq : q ∈ cols) : ∃ t, typeOfClass tbl q.2 = some t := by
  obtain ⟨p, _, hp⟩ := List.mem_map.1 (h ▸ List.mem_map.2 ⟨q, hq, rfl⟩ : rd tbl q ∈ bl.map sp)
  exact ⟨p.2, (congrArg (·.2) hp).symm⟩

theorem rel_append {tbl} (ext : ClassTable) {cols : List (String × String)} {bl : Spec.Layout}
    (h : cols.map (rd tbl) = bl.map sp) : cols.map (rd (tbl ++ ext)) = bl.map sp := by
  rw [← h]
  apply List.map_congr_left
  intro q hq
  obtain ⟨t, ht⟩ := rel_some h hq
  simp only [rd, ht, typeOfClass_append ext ht]

/-- the per-column effect of one redefinition on the read-back pairs -/
def ovPhi (x : String × String) (q : String × Option Spec.ColType) : String × Option Spec.ColType :=
  if q.1 == x.1 then (q.1, q.2.map (Spec.ColType.mixed x.2)) else q

theorem overrideCols_single (bl : Spec.Layout) (x : String × String) :
    (overrideCols bl [x]).map sp = (bl.map sp).map (ovPhi x) := by
  unfold overrideCols
  rw [List.map_map, List.map_map]
  apply List.map_congr_left
  intro p _
  simp only [Function.comp, List.find?_cons, List.find?_nil, sp, ovPhi]
  by_cases h : p.1 = x.1
  · simp [h]
  · have : (x.1 == p.1) = false := by simpa using fun e => h e.symm
    simp [this, h]

/-- redefinitions of distinct columns can be applied one after the other -/
theorem overrideCols_cons (bl : Spec.Layout) (x : String × String) (xs : List (String × String))
    (hx : x.1 ∉ xs.map (·.1)) :
    overrideCols (overrideCols bl [x]) xs = overrideCols bl (x :: xs) := by
  unfold overrideCols
  rw [List.map_map]
  apply List.map_congr_left
  intro p _
  simp only [Function.comp, List.find?_cons, List.find?_nil]
  by_cases h : x.1 = p.1
  · have : List.find? (fun c => c.1 == p.1) xs = none :=
      List.find?_eq_none.2 fun c hc hcp => hx (h ▸ eq_of_beq hcp ▸ List.mem_map.2 ⟨c, hc, rfl⟩)
    simp only [beq_iff_eq.2 h, this]
  · simp only [beq_eq_false_iff_ne.2 h]

/-- One redefinition, read back: the new class `uid` reads as `x.2` mixed over the type of the
    inherited class; every other column reads as before in the longer table. -/
theorem mixStep_class (ann : String) (acc : BuildState × List (String × String) × Nat)
    (x : String × String) (bl : Spec.Layout)
    (hrel : acc.2.1.map (rd acc.1.tbl) = bl.map sp)
    (hnd : (acc.2.1.map (·.1)).Nodup)
    (hord : acc.1.order = [1, 0])
    (hfresh : ((mixStep ann acc x).1.tbl.map (·.name)).Nodup) :
    (mixStep ann acc x).2.1.map (rd (mixStep ann acc x).1.tbl) = (overrideCols bl [x]).map sp := by
  rw [overrideCols_single, ← hrel, List.map_map]
  cases h : dictGet acc.2.1 x.1 with
  | some bcls =>
    rw [mixStep_some h, hord] at hfresh ⊢
    simp only [] at hfresh ⊢
    rw [dictSet_of_mem _ (key_mem_of_dictGet h), List.map_map]
    apply List.map_congr_left
    intro q hq
    obtain ⟨t, ht⟩ := rel_some hrel hq
    simp only [Function.comp]
    by_cases hqx : q.1 = x.1
    · -- the redefined column: its class was `bcls` (names are distinct), its new class is fresh
      have hq2 : q.2 = bcls :=
        Option.some.inj ((dictGet_of_mem_nodup hnd (show (q.1, q.2) ∈ acc.2.1 from hq)).symm.trans (hqx ▸ h))
      have hnew := typeOfClass_new (tbl := acc.1.tbl)
        (e := extendClass [1, 0] (mixUid ann x bcls acc.2.2) bcls x.2 (pyNameOf acc.1.tbl bcls))
        (fun hm => (List.nodup_append.1 (List.map_append ▸ hfresh)).2.2 _ hm _ (by simp) rfl)
        rfl rfl (hq2 ▸ ht)
      simp only [beq_iff_eq.2 hqx, if_true, rd, ovPhi, ht, Option.map_some]
      exact hqx ▸ congrArg (Prod.mk q.1) hnew
    · simp only [beq_eq_false_iff_ne.2 hqx, rd, ovPhi, ht, Bool.false_eq_true, if_false, Prod.mk.injEq, true_and]
      exact typeOfClass_append _ ht
  | none =>
    rw [mixStep_none h]
    apply List.map_congr_left
    intro q hq
    have hqx : q.1 ≠ x.1 := fun e => (dictGet_eq_none_iff _ _).1 h (e ▸ List.mem_map.2 ⟨q, hq, rfl⟩)
    simp only [Function.comp, rd, ovPhi, beq_eq_false_iff_ne.2 hqx, Bool.false_eq_true, if_false]

theorem mixFold_class (ann : String) (extra : List (String × String)) :
    ∀ (acc : BuildState × List (String × String) × Nat) (bl : Spec.Layout),
    acc.2.1.map (rd acc.1.tbl) = bl.map sp → (acc.2.1.map (·.1)).Nodup → acc.1.order = [1, 0] →
    (extra.map (·.1)).Nodup →
    ((mixFold ann extra acc).1.tbl.map (·.name)).Nodup →
    (mixFold ann extra acc).2.1.map (rd (mixFold ann extra acc).1.tbl) = (overrideCols bl extra).map sp := by
  induction extra with
  | nil => intro acc bl hrel _ _ _ _; rw [show overrideCols bl [] = bl by simp [overrideCols]]; exact hrel
  | cons x xs ih =>
    intro acc bl hrel hnd hord hex hfresh
    simp only [List.map_cons, List.nodup_cons] at hex
    rw [mixFold_cons] at hfresh ⊢
    obtain ⟨hn1, -, ho1⟩ := mixStep_inv ann acc x
    obtain ⟨ext, hext⟩ := (mixFold_inv ann xs (mixStep ann acc x)).2.1
    have hf1 : ((mixStep ann acc x).1.tbl.map (·.name)).Nodup := nodup_of_append_map (hext ▸ hfresh)
    rw [ih (mixStep ann acc x) (overrideCols bl [x]) (mixStep_class ann acc x bl hrel hnd hord hf1)
      (hn1 ▸ hnd) (ho1.trans hord) hex.2 hfresh, overrideCols_cons bl x xs hex.1]

theorem applyFilt_map {β γ} (filt : Option (List String)) (g : String × β → String × γ)
    (hg : ∀ q, (g q).1 = q.1) (X : List (String × β)) :
    (applyFilt filt X).map g = applyFilt filt (X.map g) := by
  unfold applyFilt
  cases filt with
  | none => rfl
  | some f =>
    simp only []
    rw [List.filter_map]
    congr 1
    apply List.filter_congr
    intro q _
    simp only [Function.comp, hg]

/-- `combine_columns` read back is `Spec.applyDef` -/
theorem combine_class {st : BuildState} {d : SchemeDef} {sb : Scheme} {bl : Spec.Layout}
    (hrel : sb.cols.map (rd st.tbl) = bl.map sp) (hnd : (sb.cols.map (·.1)).Nodup)
    (hex : (d.columns.map (·.1)).Nodup) (hord : st.order = [1, 0])
    (hplain : ∀ c ∈ d.columns, typeOfClass st.tbl c.2 = some (.named c.2))
    (hfresh : ((combined st d.annotation sb.cols d.columns d.filtered).1.tbl.map (·.name)).Nodup) :
    (combined st d.annotation sb.cols d.columns d.filtered).2.map
      (rd (combined st d.annotation sb.cols d.columns d.filtered).1.tbl) = (Spec.applyDef bl d).map sp := by
  unfold combined at hfresh ⊢
  rw [applyDef_eq, applyFilt_map _ (rd _) (fun _ => rfl), applyFilt_map _ sp (fun _ => rfl)]
  congr 1
  rw [List.map_append, List.map_append]
  congr 1
  · exact mixFold_class d.annotation d.columns (st, sb.cols, 0) bl hrel hnd hord hex hfresh
  · rw [freshCols, ← rel_names hrel, List.map_map]
    apply List.map_congr_left
    intro c hc
    obtain ⟨ext, hext⟩ := (mixFold_inv d.annotation d.columns (st, sb.cols, 0)).2.1
    simp only [Function.comp, rd, sp]
    rw [hext, typeOfClass_append _ (hplain c (List.mem_filter.1 hc).1)]

/-! ### what the loop knows of each scheme it has built -/

/-- The class-level hypotheses on the initial state: every column type of `ds` reads back as
    itself, and the base order is `[1, 0]`, the mix-in first.  That is the order of maf-lib
    (`extend_class` makes `type(name, (cls, base_cls), {})`; `Generated.extendClassOrder`), and the
    only one for which `typeOfClassAux` reads the bases `[x, b]` of a synthesised class as `mixed x`
    over `b`; this is where `mroOf_extend`, `mixStep_class` and `ClassHyps.order` have it from. -/
def ClassStart (ds : List SchemeDef) (st0 : BuildState) : Prop :=
  st0.order = [1, 0] ∧ ∀ d ∈ ds, ∀ c ∈ d.columns, typeOfClass st0.tbl c.2 = some (.named c.2)

/-- the scheme `s`, in state `st`, has the layout `l` -/
structure HasLayout (ds : List SchemeDef) (st0 st : BuildState) (s : Scheme) (l : Spec.Layout) : Prop where
  names : s.cols.map (·.1) = l.map (·.1)
  /-- under the class-level hypotheses, and if the class names of the table are distinct, the
      classes of `s` read back as the types of `l` -/
  classes : ClassStart ds st0 → (st.tbl.map (·.name)).Nodup → s.cols.map (rd st.tbl) = l.map sp

/-- What the invariant says of the scheme `s` built for `d`, in state `st` when `n` schemes are
    built.  The fuel `n` of `Spec.resolve` is enough because a definition is built after its base:
    the `k`-th scheme built has a chain of at most `k` definitions.  At the end of the loop
    `n = ds.length`, the fuel of `Spec.layoutOf` (`LoopInv.entry`). -/
structure EntryOK (ds : List SchemeDef) (st0 st : BuildState) (n : Nat) (d : SchemeDef) (s : Scheme) : Prop where
  filter : filterOKd ds d = true
  layout : ∃ l, Spec.resolve ds n d.annotation = some l ∧ HasLayout ds st0 st s l

section Entry
variable {ds : List SchemeDef} {st0 st : BuildState} {data : List SchemeDef} {built : List (String × Scheme)}

theorem EntryOK.mono {st st1 : BuildState} {n : Nat} {d : SchemeDef} {s : Scheme} (hext : Ext st st1)
    (h : EntryOK ds st0 st n d s) : EntryOK ds st0 st1 (n + 1) d s := by
  obtain ⟨l, hl, hL⟩ := h.layout
  obtain ⟨ext, hext⟩ := hext.1
  exact ⟨h.filter, l, resolve_mono ds (Nat.le_succ n) hl, hL.names, fun hC hnd =>
    hext ▸ rel_append ext (hL.classes hC (nodup_of_append_map (hext ▸ hnd)))⟩

/-- A ready definition builds exactly when its `filtered` names exist, and then to the
    declarative layout (one step deeper than its base's). -/
theorem step_entry (hds : DefsOK ds) (hinv : LoopInv ds (EntryOK ds st0) st0 st data built)
    {d : SchemeDef} (hd : d ∈ ds) (hr : readyB built d = true) :
    (filterOKd ds d = true → ∃ r, buildSchemeClass st d (d.hasBase.bind (dictGet built)) = .ok r) ∧
    ∀ {st1 s}, buildSchemeClass st d (d.hasBase.bind (dictGet built)) = .ok (st1, s) → Ext st st1 →
      EntryOK ds st0 st1 (built.length + 1) d s := by
  have hfd := findDef_of_mem hds.1 hd
  have hC : ClassStart ds st0 → st.order = [1, 0] ∧
      ∀ c ∈ d.columns, typeOfClass st.tbl c.2 = some (.named c.2) := fun hC => by
    obtain ⟨⟨ext0, hext0⟩, hord0⟩ := hinv.ext
    exact ⟨hord0.trans hC.1, fun c hc => hext0 ▸ typeOfClass_append _ (hC.2 d hd c hc)⟩
  unfold readyB at hr
  cases hb : d.hasBase with
  | none =>
    refine ⟨fun _ => ⟨_, rfl⟩, fun h _ => ?_⟩
    cases h
    refine ⟨by simp only [filterOKd, hb], _, resolve_root hfd hb _, ?_, fun h0 _ => ?_⟩ <;>
      rw [dictOfList_nodup _ (hds.2.1 d hd), List.map_map]
    · rfl
    · exact List.map_congr_left fun c hc => by simp only [Function.comp, rd, sp, (hC h0).2 c hc]
  | some b =>
    rw [hb] at hr
    obtain ⟨sb, hg⟩ := Option.isSome_iff_exists.1 hr
    -- the base `b` is built: its scheme `sb` has the layout `bl` of `b`
    obtain ⟨db, -, (hdb : db.annotation = b), hB⟩ := hinv.ok _ (mem_of_dictGet hg)
    obtain ⟨bl, hres, hL⟩ := hB.prop.layout
    rw [hdb] at hres
    have hlay : Spec.layoutOf ds b = some bl :=
      resolve_mono ds (n := built.length) (by have := hinv.length; omega) hres
    have hfo : filterOKd ds d = filtOK (sb.cols.map (·.1)) d.columns d.filtered := by
      simp only [filterOKd, hb, hlay, hL.names]
    have hnd : (sb.cols.map (·.1)).Nodup := hL.names ▸ resolve_nodup hds.2.1 hres
    simp only [Option.bind_some, hg]
    rw [buildSchemeClass_some_eq st d sb hnd (hds.2.1 d hd), ← hfo]
    refine ⟨fun hf => by rw [hf]; exact ⟨_, rfl⟩, fun h hext => ?_⟩
    split at h
    · rename_i hf
      cases h
      refine ⟨hf, _, (resolve_derived hfd hb _).trans (congrArg _ hres), ?_, fun h0 hfresh => ?_⟩
      · rw [applyDef_names, ← hL.names]
        exact combined_names st d.annotation sb.cols d.columns d.filtered
      · obtain ⟨ext, hext⟩ := hext.1
        exact combine_class (hL.classes h0 (nodup_of_append_map (hext ▸ hfresh))) hnd (hds.2.1 d hd)
          (hC h0).1 (hC h0).2 hfresh
    · cases h

theorem entry_run (hds : DefsOK ds) (st0 : BuildState) :
    Outcome (LoopInv ds (EntryOK ds st0) st0) (buildSchemes st0 ds) :=
  LoopInv.run hds.1 EntryOK.mono fun hinv hd hr hb hext => (step_entry hds hinv hd hr).2 hb hext

/-- An unbuilt definition whose chain resolves: walking the chain towards the root one stays among
    unbuilt definitions until one of them has a built base, or none, and that one is ready. -/
theorem exists_ready {P} (hnd : (ds.map (·.annotation)).Nodup) (hinv : LoopInv ds P st0 st data built)
    {n : Nat} {a : String} {d0 : SchemeDef} (hres : Spec.resolve ds n a ≠ none)
    (hfd : Spec.findDef ds a = some d0) (hmem : d0 ∈ data) : ∃ d ∈ data, readyB built d = true := by
  fun_induction Spec.resolve ds n a generalizing d0 with
  | case1 => exact absurd rfl hres
  | case2 => exact absurd rfl hres
  | case3 n a d hfd' hb =>
    cases hfd.symm.trans hfd'
    exact ⟨d, hmem, by simp only [readyB, hb]⟩
  | case4 n a d hfd' b hb ih =>
    cases hfd.symm.trans hfd'
    by_cases hbb : b ∈ built.map (·.1)
    · exact ⟨d, hmem, by simp only [readyB, hb]; exact (dictGet_isSome_iff built b).2 hbb⟩
    · -- the base resolves, so it is a definition, and one still to build
      have hresb : Spec.resolve ds n b ≠ none := fun e => hres (by rw [e]; rfl)
      cases hfb : Spec.findDef ds b with
      | none => exact absurd (resolve_undefined hfb n) hresb
      | some d1 =>
        obtain ⟨hd1, ha1⟩ := findDef_some hfb
        rcases List.mem_append.1 (hinv.perm.mem_iff.2 (List.mem_map.2 ⟨d1, hd1, ha1⟩)) with h' | h'
        · exact absurd h' hbb
        · obtain ⟨d2, hd2, ha2⟩ := List.mem_map.1 h'
          cases inj_of_nodup_map (·.annotation) hnd d2 (hinv.sub d2 hd2) d1 hd1 (ha2.trans ha1.symm)
          exact ih hresb hfb hd2

end Entry

end C14
