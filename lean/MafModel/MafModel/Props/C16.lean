/-
  C16 — the reader returns exactly one record per data line, and raises only the documented
  exceptions: `MafFormatException` (only in Strict mode) and the order checker's `ValueError`
  (only for a sortable declared order).

  The order checker's `ValueError` is the ordering error or the missing-contig error and nothing
  else (`value_error_cause`).  A position text that is not a number is NOT a `ValueError`: the key
  function raises `KeyError` for it, the checker skips the record like one that lacks a coordinate
  column, and the record is yielded (`bad_position_text_skipped`).

  Notation as in C17 (`Lemmas/ReaderLemmas.lean`): `headerLen K lines` = `k`, the number of header
  lines; `dataLines K lines` = the lines after the column-name line.
-/
import MafModel.Lemmas.ReaderExample
import MafModel.Generated.ClassTable
open Py Model
namespace C16

variable {C : Ctx} {K : HConsts} {R : Registry} {lines : List Text} {mode : Option Mode}
  {given : Option Scheme} {r r' : Reader} {recs : List Record}

/-- the declared sort order the reader enforces -/
def declaredOrder (K : HConsts) (r : Reader) : Order := (r.header.sortOrder K).1

/-- the contig list the header gives with the sort order (empty when it gives none) -/
def declaredContigs (K : HConsts) (r : Reader) : List Text := (r.header.sortOrder K).2

theorem checker_contigs (K : HConsts) (r : Reader) : (r.checker K).contigs = declaredContigs K r := rfl

theorem checker_ok (K : HConsts) (r : Reader) : (r.checker K).OK := by
  intro _ l hl; cases hl

/-- **C16 (count).**  A whole-file reading that ends without an exception returns exactly one
    record per data line, i.e. per line after the column-name line. -/
theorem count (hinit : Reader.init C K R lines mode given = .ok r)
    (hread : r.readAll C K = (recs, none, r')) :
    recs.length = (dataLines K lines).length ∧
    (dataLines K lines).length = lines.length - (headerLen K lines + 1) := by
  obtain ⟨j, h⟩ := readAll_spec (init_at hinit) hread
  exact ⟨(h.complete rfl).2, by simp [dataLines]⟩

/-- **C16 (which records).**  The records returned — all of them, or those returned before the
    iteration stopped — are, in order, the records `Record.fromLine` builds for data lines
    `0, 1, 2, …` when told they are lines `k + 2`, `k + 3`, …  (`recordOf`: that record, its errors
    stamped with the ghost origin). -/
theorem records (hinit : Reader.init C K R lines mode given = .ok r) :
    (r.readAll C K).1.map some =
      ((dataLines K lines).take (r.readAll C K).1.length).zipIdx.map
        (fun p => recordOf C r.scheme r.mode (headerLen K lines + 2 + p.2) p.1) := by
  obtain ⟨j, h⟩ := readAll_spec (C := C) (K := K) (init_at hinit) rfl
  exact h.records

/-- fuel sufficiency: a reading that ends without an exception has exhausted the input -/
theorem reads_to_end (hinit : Reader.init C K R lines mode given = .ok r)
    (h : (r.readAll C K).2.1 = none) : (r.readAll C K).2.2.next = none :=
  readAll_reads_to_end (init_at hinit) h

theorem count_le (hinit : Reader.init C K R lines mode given = .ok r) :
    (r.readAll C K).1.length ≤ (dataLines K lines).length := by
  obtain ⟨j, h⟩ := readAll_spec (C := C) (K := K) (init_at hinit) rfl
  exact Nat.le_trans h.length_le h.state.le

/-- **C16 (kinds, construction).**  For ANY input, stringency and given scheme, `MafReader(...)`
    either succeeds or raises a `MafFormatException`, and the latter only in Strict mode. -/
theorem init_kinds (C : Ctx) (K : HConsts) (R : Registry) (lines : List Text) (mode : Option Mode)
    (given : Option Scheme) :
    (∃ r, Reader.init C K R lines mode given = .ok r) ∨
    (mode = some .strict ∧ ∃ tpe line, Reader.init C K R lines mode given = .error (.format tpe line)) := by
  have hstrict : ∀ {es e}, processErrors (modeOrSilent mode) es = .error e →
      mode = some .strict ∧ ∃ tpe line, e = .format tpe line := fun h => by
    obtain ⟨hm, x, xs, _, rfl⟩ := processErrors_error h
    exact ⟨modeOrSilent_eq_strict.1 hm, _, _, rfl⟩
  -- the two `processErrors` stages of `__init__`: after the header, after the column names
  rw [init_eq]
  split
  · obtain ⟨hm, t, l, rfl⟩ := hstrict ‹_›
    exact .inr ⟨hm, t, l, rfl⟩
  · split
    · obtain ⟨hm, t, l, rfl⟩ := hstrict ‹_›
      exact .inr ⟨hm, t, l, rfl⟩
    · exact .inl ⟨_, rfl⟩

/-- the unconditional form of the iteration part of C16 (kinds).  It is neither proved nor refuted
    here, and is not expected to hold for arbitrary class tables / registries: a scheme whose barcode
    column is a `StringOrIntegerColumn` would yield an `int` barcode for `"12"` and a `str` one for
    `"ab"`, and comparing their sort keys raises `TypeError` in Python.
    `kinds_partial` proves it under the kind hypothesis `BarcodesTextual`; `kinds_unsortable` and
    `nonstrict_unsorted_total` need no such hypothesis. -/
def kinds_statement (C : Ctx) (K : HConsts) (R : Registry) : Prop :=
  ∀ (lines : List Text) (mode : Option Mode) (given : Option Scheme) (r : Reader),
    (∀ g, given = some g → g.names.Nodup) → (∀ s ∈ R.schemes, s.names.Nodup) →
    Reader.init C K R lines mode given = .ok r →
    ∀ recs e r', r.readAll C K = (recs, some e, r') →
      (mode = some .strict ∧ ∃ tpe line, e = .format tpe line) ∨
      ((declaredOrder K r).sortable = true ∧ e = .value)

/-- the core of C16 (kinds, iteration): from the scheme invariant and the kind hypothesis -/
theorem kinds_core (hinit : Reader.init C K R lines mode given = .ok r) (hinv : r.SchemeInv)
    (hk : (declaredOrder K r).sortable = false ∨ BarcodesTextual C r.scheme)
    {e : PyErr} (hread : r.readAll C K = (recs, some e, r')) :
    (mode = some .strict ∧ ∃ tpe line, e = .format tpe line) ∨
    ((declaredOrder K r).sortable = true ∧ e = .value) := by
  have hmode : r.mode = modeOrSilent mode := by
    obtain ⟨lg, rfl⟩ := init_ok hinit
    rfl
  rcases iterate_kinds _ r _ [] (init_at hinit).fuel hinv hk (checker_ok K r) _ hread e rfl with
    ⟨hm, t, l, rfl⟩ | h
  · exact .inl ⟨modeOrSilent_eq_strict.1 (hmode ▸ hm), t, l, rfl⟩
  · exact .inr h

/-- **C16 (kinds, iteration) — partial**: proved under the hypothesis `hk` that the records the
    reader's scheme produces carry textual barcodes (`BarcodesTextual`; it holds for
    `NoRestrictionsScheme`, see `kinds_schemeless` — and is not needed when the declared order
    is not sortable).  The other hypotheses are explicit well-formedness of the schemes: pairwise
    distinct column names (otherwise `record[name] = column` can raise `ValueError`).
    Then: an exception during the iteration is a `MafFormatException` in Strict mode, or the order
    checker's `ValueError` for a sortable declared order — which is the ordering error or the
    missing-contig error and nothing else (`value_error_cause`; a position text that is not a
    number is skipped, `bad_position_text_skipped`). -/
theorem kinds_partial (hg : ∀ g, given = some g → g.names.Nodup) (hR : ∀ s ∈ R.schemes, s.names.Nodup)
    (hinit : Reader.init C K R lines mode given = .ok r)
    (hk : (declaredOrder K r).sortable = false ∨ BarcodesTextual C r.scheme)
    {e : PyErr} (hread : r.readAll C K = (recs, some e, r')) :
    (mode = some .strict ∧ ∃ tpe line, e = .format tpe line) ∨
    ((declaredOrder K r).sortable = true ∧ e = .value) :=
  kinds_core hinit (init_schemeInv hinit hg hR) hk hread

/-- **C16 (kinds, iteration) for scheme-less files**, in full: when the reader has fallen back to
    `NoRestrictionsScheme(column names)` — no usable scheme given or named by the header — the kind
    hypothesis holds (all values are text) and the names are distinct by construction, so for ANY
    declared order the only exceptions are the Strict-mode `MafFormatException` and the order
    checker's `ValueError` (ordering error or missing contig, `value_error_cause`; NOT a position
    text that is not a number, although every position is a text here).  (`PlainBase C`: the class
    table's `MafColumnRecord` has no custom `build`; true of the generated table,
    `plainBase_generated`.) -/
theorem kinds_schemeless (hC : PlainBase C) (hinit : Reader.init C K R lines mode given = .ok r)
    {names : List String} (hs : r.scheme = some (noRestrictionsScheme names))
    {e : PyErr} (hread : r.readAll C K = (recs, some e, r')) :
    (mode = some .strict ∧ ∃ tpe line, e = .format tpe line) ∨
    ((declaredOrder K r).sortable = true ∧ e = .value) :=
  kinds_core hinit (.inl ⟨_, hs, noRestrictionsScheme_names_nodup names⟩)
    (.inr (hs ▸ barcodesTextual_noRestrictions hC names)) hread

/-! ### which `ValueError` -/

/-- **C16 (kinds, the `ValueError`).**  When the iteration stops with `ValueError`, it was raised
    by the order checker on the record `rec` the reader had just parsed (the one after the records
    returned), with a checker `chk` that has the declared order and contig list and remembers the
    last of the returned records that could be keyed; the declared order is sortable; and the
    reason is one of exactly two:
    * the header gives a contig list, and it does not contain the chromosome of `rec`
      (stated for a `rec` that has its three coordinate columns), or
    * `rec` is out of order: it and the remembered record can both be keyed and its key is
      smaller (`Checker.OutOfOrder`).
    A start / end position that is a text `int()` cannot read is NOT a reason (such a record
    cannot be keyed and is skipped, `bad_position_text_skipped`). -/
theorem value_error_cause (hinit : Reader.init C K R lines mode given = .ok r) (hinv : r.SchemeInv)
    (hread : r.readAll C K = (recs, some .value, r')) :
    (declaredOrder K r).sortable = true ∧
    ∃ (r0 : Reader) (rec : Record) (chk : Checker),
      r0.nextRecord C = .ok (some (rec, r')) ∧
      chk.order = declaredOrder K r ∧ chk.contigs = declaredContigs K r ∧
      chk.last = lastKeyed (declaredOrder K r) (declaredContigs K r) (recs.map Record.toLoc) ∧
      chk.addRecord rec = .error .value ∧
      ((declaredContigs K r ≠ [] ∧
          (rec.toLoc.hasCoords = true →
            ∀ s, rec.toLoc.chrName = some s → s ∉ declaredContigs K r)) ∨
        (rec.toLoc.hasCoords = true ∧ chk.OutOfOrder rec.toLoc)) := by
  obtain ⟨r0, rec, chk, hnr, hord, hcs, hlk, hl, hadd⟩ := iterate_valueError_source _ r (r.checker K) []
    (init_at hinit).fuel hinv (Checker.lastKeyed_of_none rfl) (fun _ => rfl) _ hread rfl
  obtain ⟨hs, hcause⟩ := Checker.addRecord_valueError_cause hlk hadd
  have hs' : (declaredOrder K r).sortable = true := by rw [hord] at hs; exact hs
  refine ⟨hs', r0, rec, chk, hnr, hord, hcs, hl hs', hadd, ?_⟩
  rw [hcs] at hcause
  exact hcause

/-- **C16 (kinds, no contig list).**  When the header gives no contig list, the only `ValueError`
    of the iteration is the ordering error; in particular the offending record has its coordinate
    columns and READABLE positions — a position text that is not a number never stops the
    iteration. -/
theorem value_error_no_contigs (hinit : Reader.init C K R lines mode given = .ok r)
    (hinv : r.SchemeInv) (hcs : declaredContigs K r = [])
    (hread : r.readAll C K = (recs, some .value, r')) :
    ∃ (r0 : Reader) (rec : Record) (chk : Checker),
      r0.nextRecord C = .ok (some (rec, r')) ∧
      chk.order = declaredOrder K r ∧ chk.contigs = [] ∧
      chk.last = lastKeyed (declaredOrder K r) [] (recs.map Record.toLoc) ∧
      chk.OutOfOrder rec.toLoc ∧
      rec.toLoc.hasCoords = true ∧ rec.toLoc.start.posOk = true ∧ rec.toLoc.stop.posOk = true := by
  obtain ⟨_, r0, rec, chk, hnr, hord, hc, hl, _, hcause⟩ := value_error_cause hinit hinv hread
  rw [hcs] at hc hl
  rcases hcause with ⟨hne, _⟩ | ⟨h0, ho⟩
  · exact (hne hcs).elim
  · exact ⟨r0, rec, chk, hnr, hord, hc, hl, ho, h0, ho.posOk.2.2.1, ho.posOk.2.2.2⟩

/-- **C16 (a non-numeric position text is skipped).**  One step of the order-enforcing iteration,
    for a checker of a sortable order WITHOUT contig list (what `Reader.checker` builds from a
    header that declares `Coordinate` / `BarcodesAndCoordinate` and no contigs), at any point of
    the file: when the record `rec` the reader parses from its look-ahead line has its three
    coordinate columns and its `Start_Position` or `End_Position` is a text that `int()` cannot
    read, then the checker accepts it and is left UNCHANGED (it still remembers the previous keyed
    record), the record is yielded, and the iteration goes on with the next line.
    (Holds for every scheme; with the unrestricted scheme every value is a text, so this is the
    only way a position can be unreadable.) -/
theorem bad_position_text_skipped {r r1 : Reader} {chk : Checker} {rec : Record}
    (acc : List Record) (fuel : Nat)
    (hs : chk.order.sortable = true) (hcs : chk.contigs = [])
    (hnr : r.nextRecord C = .ok (some (rec, r1)))
    (h0 : rec.toLoc.hasCoords = true)
    (hbad : (∃ s, rec.toLoc.start = .str s ∧ pyInt s = none) ∨
            (∃ s, rec.toLoc.stop = .str s ∧ pyInt s = none)) :
    chk.addRecord rec = .ok chk ∧
    Reader.iterate C K (fuel + 1) r chk acc = Reader.iterate C K fuel r1 chk (acc ++ [rec]) := by
  have hp : rec.toLoc.start.posOk = false ∨ rec.toLoc.stop.posOk = false := by
    rcases hbad with ⟨s, h1, h2⟩ | ⟨s, h1, h2⟩
    · exact .inl (by rw [h1]; simp [KV.posOk, h2])
    · exact .inr (by rw [h1]; simp [KV.posOk, h2])
  have hadd := Checker.addRecord_bad_position hs h0 (.inl hcs) hp
  exact ⟨hadd, iterate_step hnr hadd fuel acc⟩

/-- the same with a contig list, provided the chromosome of the record is in it (otherwise the
    missing-contig `ValueError` comes first, as in `_CoordinateKey.__init__`) -/
theorem bad_position_text_skipped_contigs {r r1 : Reader} {chk : Checker} {rec : Record}
    (acc : List Record) (fuel : Nat)
    (hs : chk.order.sortable = true)
    (hnr : r.nextRecord C = .ok (some (rec, r1)))
    (h0 : rec.toLoc.hasCoords = true)
    (hchr : ∃ s, rec.toLoc.chrName = some s ∧ s ∈ chk.contigs)
    (hp : rec.toLoc.start.posOk = false ∨ rec.toLoc.stop.posOk = false) :
    chk.addRecord rec = .ok chk ∧
    Reader.iterate C K (fuel + 1) r chk acc = Reader.iterate C K fuel r1 chk (acc ++ [rec]) := by
  have hadd := Checker.addRecord_bad_position hs h0 (.inr hchr) hp
  exact ⟨hadd, iterate_step hnr hadd fuel acc⟩

/-- at the first data line of a freshly constructed reader whose header declares a sortable order
    without contigs: the whole-file reading continues after the bad record with an untouched
    checker -/
theorem bad_position_text_skipped_first {r1 : Reader} {rec : Record}
    (hs : (declaredOrder K r).sortable = true) (hcs : declaredContigs K r = [])
    (hnr : r.nextRecord C = .ok (some (rec, r1)))
    (h0 : rec.toLoc.hasCoords = true)
    (hbad : (∃ s, rec.toLoc.start = .str s ∧ pyInt s = none) ∨
            (∃ s, rec.toLoc.stop = .str s ∧ pyInt s = none)) :
    r.readAll C K = Reader.iterate C K (r.src.length + 1) r1 (r.checker K) [rec] :=
  (bad_position_text_skipped (C := C) (K := K) (chk := r.checker K) [] (r.src.length + 1)
    hs hcs hnr h0 hbad).2

theorem plainBase_of_decide {C : Ctx}
    (h : (match resolveSpec C.tbl "MafColumnRecord" with
          | some sp => sp.buildMethod == some "MafColumnRecord"
          | none => true) = true) : PlainBase C := by
  intro sp hsp
  rw [hsp] at h
  simpa using h

private theorem generated_plain :
    (match resolveSpec Generated.classTable "MafColumnRecord" with
     | some sp => sp.buildMethod == some "MafColumnRecord"
     | none => true) = true := by decide

/-- the class table generated from the repository satisfies `PlainBase` -/
theorem plainBase_generated (E : Enums) (H : FloatHost) : PlainBase ⟨Generated.classTable, E, H⟩ :=
  plainBase_of_decide generated_plain

/-- without a given scheme and with a registry whose lookup finds nothing, the reader is
    scheme-less as soon as there is a column-name line -/
theorem scheme_of_no_match (hinit : Reader.init C K R lines mode none = .ok r)
    (hnone : r.header.scheme K R = none) {l : Text} (hcol : (stripped lines)[headerLen K lines]? = some l) :
    r.scheme = some (noRestrictionsScheme ((splitOn '\t' l).map String.ofList)) := by
  obtain ⟨lg, rfl⟩ := init_ok hinit
  have hnone : (parsedHeader K R (headerBlock K lines)).scheme K R = none := hnone
  show schemeOf K R lines none _ = _
  unfold schemeOf colNamesOf initSch1 initSch2
  rw [hcol, hnone]
  simp [schemeless]

/-- C16 (kinds) for an order that is not sortable: the only exception is the Strict-mode
    `MafFormatException` -/
theorem kinds_unsortable (hg : ∀ g, given = some g → g.names.Nodup) (hR : ∀ s ∈ R.schemes, s.names.Nodup)
    (hinit : Reader.init C K R lines mode given = .ok r)
    (ho : (declaredOrder K r).sortable = false)
    {e : PyErr} (hread : r.readAll C K = (recs, some e, r')) :
    mode = some .strict ∧ ∃ tpe line, e = .format tpe line := by
  rcases kinds_partial hg hR hinit (.inl ho) hread with h | ⟨h, _⟩
  · exact h
  · rw [ho] at h; cases h

/-- **C16 (totality).**  Outside Strict mode and for a declared order that is not sortable, the
    whole file is read without any exception, and one record is returned per data line. -/
theorem nonstrict_unsorted_total (hg : ∀ g, given = some g → g.names.Nodup)
    (hR : ∀ s ∈ R.schemes, s.names.Nodup)
    (hinit : Reader.init C K R lines mode given = .ok r) (hm : mode ≠ some .strict)
    (ho : (declaredOrder K r).sortable = false) :
    ∃ recs r', r.readAll C K = (recs, none, r') ∧ recs.length = (dataLines K lines).length := by
  rcases hres : r.readAll C K with ⟨recs, oe, r'⟩
  cases oe with
  | some e => exact absurd (kinds_unsortable hg hR hinit ho hres).1 hm
  | none => exact ⟨recs, r', rfl, (count hinit hres).1⟩

/-- outside Strict mode the reader can always be constructed -/
theorem nonstrict_init_total (C : Ctx) (K : HConsts) (R : Registry) (lines : List Text)
    {mode : Option Mode} (given : Option Scheme) (hm : mode ≠ some .strict) :
    ∃ r, Reader.init C K R lines mode given = .ok r := by
  rcases init_kinds C K R lines mode given with h | ⟨h, _⟩
  · exact h
  · exact absurd h hm

/-! ### non-vacuity: the example files of `Lemmas/ReaderExample.lean` -/
section examples
open Model.ReaderExample

/-- the hypotheses of `count` / `nonstrict_unsorted_total` are met by the example file (2 header
    lines, the column names, 2 data lines — one of them short), read in Silent mode: no exception,
    2 records -/
example : ∃ r recs r', Reader.init exC exK exR exLines (some .silent) none = .ok r ∧
    (declaredOrder exK r).sortable = false ∧
    r.readAll exC exK = (recs, none, r') ∧ recs.length = 2 ∧ (dataLines exK exLines).length = 2 := by
  have hr := init_silent exC exK exR exLines none
  have hf : (declaredOrder exK (silentReader exK exR exLines none)).sortable = false := by decide +kernel
  obtain ⟨recs, r', hread, hlen⟩ := nonstrict_unsorted_total (C := exC) (by intro g h; cases h)
    (by intro s h; cases h) hr (by decide) hf
  have hd : (dataLines exK exLines).length = 2 := by decide +kernel
  exact ⟨_, recs, r', hr, hf, hread, hlen.trans hd, hd⟩

/-- Strict mode on the same file: the construction itself fails with the first header error -/
example : Reader.init exC exK exR exLines (some .strict) none
    = .error (.format "HEADER_LINE_MISSING_SEPARATOR" (some 2)) := eq_error_of_errOf (by decide +kernel)

/-- the hypotheses of `kinds_schemeless` are met by a file declaring a sortable order -/
example : ∃ r, Reader.init exC exK exR exSorted (some .silent) none = .ok r ∧
    (declaredOrder exK r).sortable = true ∧
    r.scheme = some (noRestrictionsScheme ["Chromosome", "Start_Position", "End_Position"]) :=
  ⟨_, init_silent exC exK exR exSorted none, by decide +kernel⟩

example : PlainBase exC := plainBase_of_decide (by decide)

/-- the Silent run over `exBadPos`, evaluated once -/
private theorem exBadPos_run :
    (declaredOrder exK (silentReader exK exR exBadPos none)).sortable = true ∧
    declaredContigs exK (silentReader exK exR exBadPos none) = [] ∧
    (silentReader exK exR exBadPos none).scheme =
      some (noRestrictionsScheme ["Chromosome", "Start_Position", "End_Position"]) ∧
    ((silentReader exK exR exBadPos none).readAll exC exK).2.1 = none ∧
    ((silentReader exK exR exBadPos none).readAll exC exK).1.length = 3 ∧
    ((silentReader exK exR exBadPos none).readAll exC exK).1.map (fun rec => rec.toLoc.start) =
      [.str "10".toList, .str "abc".toList, .str "30".toList] := by
  decide +kernel

/-- `bad_position_text_skipped` on a concrete file: unrestricted scheme, `Coordinate` order, no
    contigs, second record with start `abc`.  All three records are returned, no exception. -/
example : ∃ r recs r', Reader.init exC exK exR exBadPos (some .silent) none = .ok r ∧
    (declaredOrder exK r).sortable = true ∧ declaredContigs exK r = [] ∧
    r.scheme = some (noRestrictionsScheme ["Chromosome", "Start_Position", "End_Position"]) ∧
    r.readAll exC exK = (recs, none, r') ∧ recs.length = 3 ∧
    (recs.map (fun rec => rec.toLoc.start)) = [.str "10".toList, .str "abc".toList, .str "30".toList] := by
  obtain ⟨h1, h2, h3, h4, h5, h6⟩ := exBadPos_run
  exact ⟨_, _, _, init_silent exC exK exR exBadPos none, h1, h2, h3, Prod.ext rfl (Prod.ext h4 rfl), h5, h6⟩

/-- the hypotheses of `bad_position_text_skipped` are met at the second data line of that file -/
example : ∃ r r1 rec1 r2 rec2, Reader.init exC exK exR exBadPos (some .silent) none = .ok r ∧
    (r.checker exK).order.sortable = true ∧ (r.checker exK).contigs = [] ∧
    r.nextRecord exC = .ok (some (rec1, r1)) ∧ r1.nextRecord exC = .ok (some (rec2, r2)) ∧
    rec2.toLoc.hasCoords = true ∧ (∃ s, rec2.toLoc.start = .str s ∧ pyInt s = none) := by
  have h : (match (silentReader exK exR exBadPos none).nextRecord exC with
      | .ok (some (_, r1)) =>
        (match r1.nextRecord exC with
         | .ok (some (rec2, _)) => rec2.toLoc.hasCoords && decide (rec2.toLoc.start = .str "abc".toList)
         | _ => false)
      | _ => false) = true := by decide +kernel
  split at h
  · rename_i rec1 r1 hn1
    split at h
    · rename_i rec2 r2 hn2
      simp only [Bool.and_eq_true, decide_eq_true_eq] at h
      exact ⟨_, r1, rec1, r2, rec2, init_silent exC exK exR exBadPos none, exBadPos_run.1, exBadPos_run.2.1,
        hn1, hn2, h.1, _, h.2, by decide⟩
    · cases h
  · cases h

/-- ... and the bad record does not reset what the checker remembers: a third record that is out
    of order relative to the FIRST one is still reported (`ValueError` after two records) -/
example : ∃ r, Reader.init exC exK exR exBadPosDesc (some .silent) none = .ok r ∧
    (r.readAll exC exK).1.length = 2 ∧ (r.readAll exC exK).2.1 = some .value :=
  ⟨_, init_silent exC exK exR exBadPosDesc none, by decide +kernel⟩

end examples

end C16
