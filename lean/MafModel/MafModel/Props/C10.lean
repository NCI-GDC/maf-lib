/-
  C10 — a sorting writer obeys its own header: the records it emits are accepted by the order
  checker of a reader that uses the same sort order and contig list.

  Model: the sorting writer pushes every record into the external sorter (`Model.sortAll`,
  `MafModel/Model/Sorter.lean`) whose comparison is the `<` of the records' sort keys, `recLt`
  (`false` when either record cannot be keyed), and the reader feeds what it reads to
  `Model.checkAll` (`MafModel/Model/SortOrder.lean`).

  * `Good o cs r`: `r` is well-formed (`Loc.WF`) and keyable (`mkKey o cs r = .ok _`).
  a. `lt_total`, `lt_trans` : on good records `le a b := !recLt b a` is total and transitive —
     the hypotheses C07 needs — from C08.  (They FAIL on arbitrary records: an unkeyable record is
     "equal" to everything, see the counterexample `trans_fails_without_good`; this is why the
     proof restricts the sorter to the subtype of good records, `SorterLemmas.sortAll_map`.)
  b. `own_reader_accepts` : for a sortable order, every `cap ≥ 1`, both spill policies and every
     list of good records, the checker yields the whole sorter output and reports no error;
     `own_reader_yields_all` adds that this output is a permutation of the records written.
  c. `unsorted_order_preserved` : a non-sorting writer writes the records in call order
     (definitional on the tiny writer model `writeAll`); `sorting_writer_accepted` restates (b)
     on that model and `unsorted_writer_accepted` is the matching fact for non-sortable orders.
-/
import MafModel.Props.C07
import MafModel.Props.C09
import MafModel.Lemmas.SorterMapLemmas

open Py Model

namespace C10

/-- the comparison of the sorting writer: `<` on the sort keys (of the same order and contigs) -/
def recLt (o : Order) (cs : List Text) (a b : Loc) : Bool :=
  match mkKey o cs a, mkKey o cs b with
  | .ok ka, .ok kb => (keyLt ka kb == .ok true)
  | _, _ => false

/-- a record the sorting writer can handle: well-formed and keyable -/
def Good (o : Order) (cs : List Text) (r : Loc) : Prop := r.WF ∧ ∃ k, mkKey o cs r = .ok k

variable {o : Order} {cs : List Text}

theorem Good.key {r : Loc} (h : Good o cs r) :
    mkKey o cs r = .ok (r.key o cs) ∧ KeyInv (!cs.isEmpty) (r.key o cs) := by
  obtain ⟨hwf, k, hk⟩ := h
  obtain ⟨-, rfl⟩ := (mkKey_ok_iff hwf).1 hk
  exact ⟨hk, mkKey_inv hwf hk⟩

theorem recLt_eq {a b : Loc} (ha : Good o cs a) (hb : Good o cs b) :
    recLt o cs a b = decide (Key.cmp (a.key o cs) (b.key o cs) < 0) := by
  unfold recLt
  rw [ha.key.1, hb.key.1]
  simp only
  rw [ha.key.2.keyLt_eq hb.key.2]
  cases decide (Key.cmp (a.key o cs) (b.key o cs) < 0) <;> rfl

theorem not_recLt_iff_keyLe {a b : Loc} (ha : Good o cs a) (hb : Good o cs b) :
    (!recLt o cs b a) = true ↔ keyLe (a.key o cs) (b.key o cs) = .ok true := by
  rw [recLt_eq hb ha, C08.keyLe_iff_inv ha.key.2 hb.key.2, Key.cmp_isCmp.swap (a.key o cs) (b.key o cs)]
  simp only [Bool.not_eq_true', decide_eq_false_iff_not]
  omega

/-! ## (a) `recLt` is a strict weak order on good records -/

theorem lt_total {a b : Loc} (ha : Good o cs a) (hb : Good o cs b) :
    (!recLt o cs b a) = true ∨ (!recLt o cs a b) = true := by
  rw [recLt_eq hb ha, recLt_eq ha hb, Key.cmp_isCmp.swap (a.key o cs) (b.key o cs)]
  simp only [Bool.not_eq_true', decide_eq_false_iff_not]
  omega

theorem lt_trans {a b c : Loc} (ha : Good o cs a) (hb : Good o cs b) (hc : Good o cs c) :
    (!recLt o cs b a) = true → (!recLt o cs c b) = true → (!recLt o cs c a) = true := by
  rw [not_recLt_iff_keyLe ha hb, not_recLt_iff_keyLe hb hc, not_recLt_iff_keyLe ha hc]
  exact C08.le_trans_inv ha.key.2 hb.key.2 hc.key.2

/-- a. irreflexivity and asymmetry (so `recLt` is the strict part of a total preorder) -/
theorem lt_irrefl {a : Loc} (ha : Good o cs a) : recLt o cs a a = false := by
  rw [recLt_eq ha ha, Key.cmp_isCmp.self]; rfl

theorem lt_asymm {a b : Loc} (ha : Good o cs a) (hb : Good o cs b)
    (h : recLt o cs a b = true) : recLt o cs b a = false := by
  rw [recLt_eq ha hb] at h
  rw [recLt_eq hb ha, Key.cmp_isCmp.swap (a.key o cs) (b.key o cs)]
  simp only [decide_eq_true_eq] at h
  simp only [decide_eq_false_iff_not]
  omega

/-- the restriction to good records matters: with an unkeyable record in the middle,
    transitivity of `!recLt · ·` fails (so C07 cannot be applied to `recLt` on all of `Loc`) -/
theorem trans_fails_without_good :
    ∃ a b c : Loc, (!recLt .coordinate [] b a) = true ∧ (!recLt .coordinate [] c b) = true ∧
      (!recLt .coordinate [] c a) = false :=
  ⟨{ chr := .str "1".toList, start := .int 5, stop := .int 6 }, { hasCoords := false },
   { chr := .str "1".toList, start := .int 1, stop := .int 2 }, by decide, by decide, by decide⟩

/-! ## (b) the sorter's output passes the checker -/

/-- the good records as a type: the sorter is run on it, where `recLt` is a total preorder -/
abbrev GoodLoc (o : Order) (cs : List Text) : Type := { r : Loc // Good o cs r }

theorem checkAll_of_sorted (hs : o.sortable = true) {l : List Loc} (hg : ∀ r ∈ l, Good o cs r)
    (hsorted : l.Pairwise (fun a b => (!recLt o cs b a) = true)) :
    checkAll { order := o, contigs := cs } l = (l, none) := by
  have hk : Keyed o cs l (l.map (Loc.key o cs)) :=
    keyed_iff_map.2 (by rw [List.map_map]; exact List.map_congr_left fun r hr => (hg r hr).key.1)
  rw [C09.all_iff_pairwise_le (c := { order := o, contigs := cs }) hs rfl
    (fun r hr => (hg r hr).1) hk, List.pairwise_map]
  exact hsorted.imp_of_mem (fun {a b} ha hb h => (not_recLt_iff_keyLe (hg a ha) (hg b hb)).1 h)

theorem sortAll_good_sorted {rs : List Loc} (hg : ∀ r ∈ rs, Good o cs r)
    (cap : Nat) (hcap : 1 ≤ cap) (sp : Bool) :
    (∀ r ∈ sortAll (recLt o cs) cap sp rs, Good o cs r) ∧
    (sortAll (recLt o cs) cap sp rs).Pairwise (fun a b => (!recLt o cs b a) = true) := by
  -- move to the subtype of good records, where C07 applies
  have hrs : (rs.attachWith (Good o cs) hg).map Subtype.val = rs := by
    rw [← List.unattach, List.unattach_attachWith]
  have hmap := SorterLemmas.sortAll_map (recLt o cs) (Subtype.val : GoodLoc o cs → Loc) cap sp
    (rs.attachWith (Good o cs) hg)
  rw [hrs] at hmap
  have hsorted := C07.sorted (SorterLemmas.comapLt (recLt o cs) (Subtype.val : GoodLoc o cs → Loc))
    (fun a b => lt_total a.2 b.2) (fun a b c => lt_trans a.2 b.2 c.2) cap hcap sp
    (rs.attachWith (Good o cs) hg)
  rw [hmap]
  constructor
  · intro r hr
    obtain ⟨g, -, rfl⟩ := List.mem_map.1 hr
    exact g.2
  · rw [List.pairwise_map]
    exact hsorted

/-- b. what a sorting writer emits is accepted by a reader using the same order and contig
    list: the library's own order checker iterates to the end and yields every emitted record. -/
theorem own_reader_accepts (o : Order) (hs : o.sortable = true) (cs : List Text) (rs : List Loc)
    (hwf : ∀ r ∈ rs, r.WF) (hkey : ∀ r ∈ rs, ∃ k, mkKey o cs r = .ok k)
    (cap : Nat) (hcap : 1 ≤ cap) (sp : Bool) :
    checkAll { order := o, contigs := cs } (sortAll (recLt o cs) cap sp rs)
      = (sortAll (recLt o cs) cap sp rs, none) := by
  have h := sortAll_good_sorted (o := o) (cs := cs) (rs := rs)
    (fun r hr => ⟨hwf r hr, hkey r hr⟩) cap hcap sp
  exact checkAll_of_sorted hs h.1 h.2

/-- b. ... and what the reader yields is every written record exactly once -/
theorem own_reader_yields_all (o : Order) (hs : o.sortable = true) (cs : List Text) (rs : List Loc)
    (hwf : ∀ r ∈ rs, r.WF) (hkey : ∀ r ∈ rs, ∃ k, mkKey o cs r = .ok k)
    (cap : Nat) (hcap : 1 ≤ cap) (sp : Bool) :
    (checkAll { order := o, contigs := cs } (sortAll (recLt o cs) cap sp rs)).2 = none ∧
    (checkAll { order := o, contigs := cs } (sortAll (recLt o cs) cap sp rs)).1.Perm rs := by
  rw [own_reader_accepts o hs cs rs hwf hkey cap hcap sp]
  exact ⟨rfl, C07.perm _ cap hcap sp rs⟩

/-- b. the keys of the emitted records are non-decreasing for the operator `≤` -/
theorem emitted_keys_sorted (o : Order) (cs : List Text) (rs : List Loc)
    (hwf : ∀ r ∈ rs, r.WF) (hkey : ∀ r ∈ rs, ∃ k, mkKey o cs r = .ok k)
    (cap : Nat) (hcap : 1 ≤ cap) (sp : Bool) :
    ((sortAll (recLt o cs) cap sp rs).map (Loc.key o cs)).Pairwise
      (fun a b => keyLe a b = .ok true) := by
  have h := sortAll_good_sorted (o := o) (cs := cs) (rs := rs)
    (fun r hr => ⟨hwf r hr, hkey r hr⟩) cap hcap sp
  rw [List.pairwise_map]
  exact h.2.imp_of_mem (fun {a b} ha hb h' => (not_recLt_iff_keyLe (h.1 a ha) (h.1 b hb)).1 h')

/-- keyability from an explicit (decidable) key list -/
theorem keyable_of_keyed {rs : List Loc} {ks : List Key} (h : Keyed o cs rs ks) :
    ∀ r ∈ rs, ∃ k, mkKey o cs r = .ok k := by
  intro r hr
  obtain ⟨k, -, hk⟩ := List.mem_map.1 (keyed_iff_map.1 h ▸ List.mem_map_of_mem hr)
  exact ⟨k, hk.symm⟩

/-! ## (c) a tiny writer model -/

/-- what a writer puts in the file for the records passed to `+=`, in order: a sorting writer
    routes them through the sorter, a non-sorting writer writes them as they come -/
def writeAll (sorting : Bool) (o : Order) (cs : List Text) (cap : Nat) (sp : Bool)
    (rs : List Loc) : List Loc :=
  if sorting then sortAll (recLt o cs) cap sp rs else rs

/-- c. a non-sorting writer writes the records in call order (definitional) -/
theorem unsorted_order_preserved (o : Order) (cs : List Text) (cap : Nat) (sp : Bool)
    (rs : List Loc) : writeAll (sorting := false) o cs cap sp rs = rs := rfl

/-- b. on the writer model: the output of a sorting writer is accepted by its own reader -/
theorem sorting_writer_accepted (o : Order) (hs : o.sortable = true) (cs : List Text)
    (rs : List Loc) (hwf : ∀ r ∈ rs, r.WF) (hkey : ∀ r ∈ rs, ∃ k, mkKey o cs r = .ok k)
    (cap : Nat) (hcap : 1 ≤ cap) (sp : Bool) :
    checkAll { order := o, contigs := cs } (writeAll true o cs cap sp rs)
      = (writeAll true o cs cap sp rs, none) ∧
    (writeAll true o cs cap sp rs).Perm rs :=
  ⟨own_reader_accepts o hs cs rs hwf hkey cap hcap sp, C07.perm _ cap hcap sp rs⟩

/-- c. the output of a non-sorting writer whose header declares a non-sortable order
    (`Unknown`/`Unsorted`) is accepted by its reader whatever the records are -/
theorem unsorted_writer_accepted (o : Order) (hs : o.sortable = false) (cs : List Text)
    (cap : Nat) (sp : Bool) (rs : List Loc) :
    checkAll { order := o, contigs := cs } (writeAll false o cs cap sp rs) = (rs, none) :=
  C09.unsorted_never _ hs rs

/-! ## non-vacuity -/

section examples

private def cs0 : List Text := ["chr1".toList, "chr2".toList]
private def l1 : Loc := { chr := .str "chr1".toList, start := .int 5, stop := .int 9 }
private def l2 : Loc := { chr := .str "chr1".toList, start := .str "10".toList, stop := .int 12 }
private def l3 : Loc := { chr := .str "chr2".toList, start := .int 1, stop := .int 2 }
private def k1 : Key := { chr := .int 0, start := .int 5, stop := .int 9 }
private def k2 : Key := { chr := .int 0, start := .int 10, stop := .int 12 }
private def k3 : Key := { chr := .int 1, start := .int 1, stop := .int 2 }

/-- the hypotheses of `own_reader_accepts` are met by a concrete unsorted input -/
example : Order.coordinate.sortable = true ∧ (∀ r ∈ [l3, l2, l1, l2], r.WF) ∧
    Keyed .coordinate cs0 [l3, l2, l1, l2] [k3, k2, k1, k2] := by decide

example (cap : Nat) (hcap : 1 ≤ cap) (sp : Bool) :
    checkAll { order := .coordinate, contigs := cs0 }
        (sortAll (recLt .coordinate cs0) cap sp [l3, l2, l1, l2])
      = (sortAll (recLt .coordinate cs0) cap sp [l3, l2, l1, l2], none) :=
  own_reader_accepts .coordinate rfl cs0 _ (by decide)
    (keyable_of_keyed (ks := [k3, k2, k1, k2]) (by decide)) cap hcap sp

/-- the input itself is NOT accepted (so the sorter did something) -/
example : checkAll { order := .coordinate, contigs := cs0 } [l3, l2, l1, l2]
    = ([l3], some .value) := by decide

/-- the comparison on these records: `l1 < l2 < l3`, the text position "10" read as a number -/
example : recLt .coordinate cs0 l1 l2 = true ∧ recLt .coordinate cs0 l2 l3 = true ∧
    recLt .coordinate cs0 l2 l1 = false ∧ recLt .coordinate cs0 l2 l2 = false := by decide

example : Good .coordinate cs0 l2 := ⟨by decide, k2, by decide⟩

end examples

end C10
