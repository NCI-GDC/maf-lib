/-
  C13 — header lines are parsed, diagnosed and printed faithfully.

  Statements about the model's `HRec.fromLine` (`MafHeaderRecord.from_line`),
  `Header.parseLines` / `Header.applyContigs` (`MafHeader.from_lines`), `HRec.render` /
  `Header.renderLines` (`str`), the accessors and `Header.validate`
  (`MafModel/Model/Header.lean`).  The vocabulary of the statements (`lineErr`, `kvResult`,
  `HVal.ofText`, `okRecs`, `keepFirst`, `lineDiag`, `HRec.Canon`, `Header.Inv`, `Header.Fresh`,
  `HRec.reset`) is defined in `Lemmas/HeaderLemmas.lean`.

  `K : HConsts` is arbitrary; where needed it is assumed well-formed (`K.WF`: the four special keys
  are pairwise distinct and blank-free, and looking up a listed sort-order name gives an order that
  prints as exactly that name).  The real constants `K0` are well-formed (`K0_wf`) and agree with
  the regenerated constants (`K0_generated`).  Nothing depends on the start symbol being `'#'`.

  The last clause of the property (a header derived from a reader shares no mutable state with the
  reader's own header) is about object aliasing in Python (`deepcopy`); the model has value
  semantics, so there is nothing to state here.  It is covered by the differential check only.
-/
import MafModel.Lemmas.HeaderLemmas
import MafModel.Generated.Consts
open Py Model
namespace C13

/-! ## the constants -/

theorem K0_wf : K0.WF := Model.K0_WF

/-- `K0` is what the driver builds from the regenerated constants -/
theorem K0_generated :
    K0 = { versionKey := Generated.versionKey.toList,
           annotationKey := Generated.annotationSpecKey.toList,
           sortOrderKey := Generated.sortOrderKey.toList,
           contigKey := Generated.contigKey.toList,
           startSymbol := (Generated.headerLineStartSymbol.toList.head?).getD '#',
           sortOrders := Generated.sortOrders.map (fun p => (p.1.toList, p.2.1, p.2.2)) } := by
  rfl

/-! ## `parse_exact`: one line -/

/-- **Every line is kept or diagnosed with exactly one error of the right category.**
    A line has one of three shapes, and `fromLine` answers accordingly:
    no start symbol → `HEADER_LINE_MISSING_START_SYMBOL`; start symbol and no blank after it →
    `HEADER_LINE_MISSING_SEPARATOR`; `# key ␣ v` with blank-free `key` → the table `kvResult`
    (spelled out by the theorems below). -/
theorem parse_exact (K : HConsts) (line : Text) (n : Nat) :
    ((∀ rest, line ≠ K.startSymbol :: rest) ∧
        HRec.fromLine K line n = .error (lineErr "HEADER_LINE_MISSING_START_SYMBOL" n)) ∨
    (∃ rest, line = K.startSymbol :: rest ∧ ' ' ∉ rest ∧
        HRec.fromLine K line n = .error (lineErr "HEADER_LINE_MISSING_SEPARATOR" n)) ∨
    (∃ key v, line = K.startSymbol :: (key ++ ' ' :: v) ∧ ' ' ∉ key ∧
        HRec.fromLine K line n = kvResult K key v n) := by
  rcases line_shape K line with h1 | ⟨rest, rfl, h2⟩ | ⟨key, v, rfl, h3⟩
  · exact .inl ⟨h1, fromLine_noStart K line n h1⟩
  · exact .inr (.inl ⟨rest, rfl, h2, fromLine_noSep K rest n h2⟩)
  · exact .inr (.inr ⟨key, v, rfl, h3, fromLine_kv K key v n h3⟩)

/-- the table for `# key ␣ v`, row by row -/
theorem kv_empty_key (K : HConsts) (v : Text) (n : Nat) :
    kvResult K [] v n = .error (lineErr "HEADER_LINE_EMPTY_KEY" n) := by simp [kvResult]

theorem kv_empty_value (K : HConsts) {key v : Text} (n : Nat) (hk : key ≠ []) (hv : rstripWs v = []) :
    kvResult K key v n = .error (lineErr "HEADER_LINE_EMPTY_VALUE" n) := by simp [kvResult, hk, hv]

theorem kv_sort_order (K : HConsts) {key v : Text} (n : Nat) (hk : key ≠ []) (hv : rstripWs v ≠ [])
    (hs : key = K.sortOrderKey) {o : Order} (ho : orderOfName K (rstripWs v) = some o) :
    kvResult K key v n = .ok { key := key, value := .sortOrder o [] } := by
  subst hs
  simp [kvResult, hk, hv, HVal.ofText, ho]

theorem kv_unsupported_sort_order (K : HConsts) {key v : Text} (n : Nat) (hk : key ≠ [])
    (hv : rstripWs v ≠ []) (hs : key = K.sortOrderKey) (ho : orderOfName K (rstripWs v) = none) :
    kvResult K key v n = .error (lineErr "HEADER_UNSUPPORTED_SORT_ORDER" n) := by
  subst hs
  simp [kvResult, hk, hv, HVal.ofText, ho]

theorem kv_contigs (K : HConsts) {key v : Text} (n : Nat) (hk : key ≠ []) (hv : rstripWs v ≠ [])
    (hs : key ≠ K.sortOrderKey) (hc : key = K.contigKey) :
    kvResult K key v n = .ok { key := key, value := .contigs (splitOn ',' (rstripWs v)) } := by
  subst hc
  simp [kvResult, hk, hv, HVal.ofText, hs]

theorem kv_text (K : HConsts) {key v : Text} (n : Nat) (hk : key ≠ []) (hv : rstripWs v ≠ [])
    (hs : key ≠ K.sortOrderKey) (hc : key ≠ K.contigKey) :
    kvResult K key v n = .ok { key := key, value := .text (rstripWs v) } := by
  simp [kvResult, hk, hv, HVal.ofText, hs, hc]

/-! ### the same as equivalences -/

/- Each equivalence selects a row of `parse_exact` / `kvResult_error_iff`: in the other rows the
   condition fails and the category name differs. -/
theorem missing_start_iff (K : HConsts) (line : Text) (n : Nat) :
    (∀ rest, line ≠ K.startSymbol :: rest) ↔
      HRec.fromLine K line n = .error (lineErr "HEADER_LINE_MISSING_START_SYMBOL" n) := by
  rcases parse_exact K line n with ⟨h1, h2⟩ | ⟨rest, rfl, -, h2⟩ | ⟨key, v, rfl, -, h2⟩
  · exact iff_of_true h1 h2
  · rw [h2]; simp [lineErr]
  · rw [h2, kvResult_error_iff]; simp [lineErr]

theorem missing_separator_iff (K : HConsts) (line : Text) (n : Nat) :
    (∃ rest, line = K.startSymbol :: rest ∧ ' ' ∉ rest) ↔
      HRec.fromLine K line n = .error (lineErr "HEADER_LINE_MISSING_SEPARATOR" n) := by
  rcases parse_exact K line n with ⟨h1, h2⟩ | ⟨rest, rfl, h1, h2⟩ | ⟨key, v, rfl, -, h2⟩
  · rw [h2]; simp [lineErr, h1]
  · exact iff_of_true ⟨rest, rfl, h1⟩ h2
  · rw [h2, kvResult_error_iff]; simp [lineErr]

section kv
variable (K : HConsts) {key v : Text} (n : Nat) (hb : ' ' ∉ key)
include hb

theorem empty_key_iff :
    key = [] ↔ HRec.fromLine K (K.startSymbol :: (key ++ ' ' :: v)) n =
      .error (lineErr "HEADER_LINE_EMPTY_KEY" n) := by
  rw [fromLine_kv K key v n hb, kvResult_error_iff]; simp [lineErr]

theorem empty_value_iff :
    (key ≠ [] ∧ rstripWs v = []) ↔ HRec.fromLine K (K.startSymbol :: (key ++ ' ' :: v)) n =
      .error (lineErr "HEADER_LINE_EMPTY_VALUE" n) := by
  rw [fromLine_kv K key v n hb, kvResult_error_iff]; simp [lineErr]

theorem unsupported_sort_order_iff :
    (key ≠ [] ∧ rstripWs v ≠ [] ∧ key = K.sortOrderKey ∧ orderOfName K (rstripWs v) = none) ↔
      HRec.fromLine K (K.startSymbol :: (key ++ ' ' :: v)) n =
        .error (lineErr "HEADER_UNSUPPORTED_SORT_ORDER" n) := by
  rw [fromLine_kv K key v n hb, kvResult_error_iff]; simp [lineErr, HVal.ofText_eq_none_iff]

theorem ok_iff (r : HRec) :
    HRec.fromLine K (K.startSymbol :: (key ++ ' ' :: v)) n = .ok r ↔
      key ≠ [] ∧ rstripWs v ≠ [] ∧ r.key = key ∧ HVal.ofText K key (rstripWs v) = some r.value := by
  rw [fromLine_kv K key v n hb, kvResult_ok_iff]

end kv

/-- the stored value, case by case -/
theorem ofText_sort_order (K : HConsts) (value : Text) :
    HVal.ofText K K.sortOrderKey value = (orderOfName K value).map (fun o => .sortOrder o []) := by
  simp [HVal.ofText]

theorem ofText_contigs (K : HConsts) (value : Text) (h : K.contigKey ≠ K.sortOrderKey) :
    HVal.ofText K K.contigKey value = some (.contigs (splitOn ',' value)) := by
  simp [HVal.ofText, h]

theorem ofText_text (K : HConsts) (key value : Text) (h1 : key ≠ K.sortOrderKey)
    (h2 : key ≠ K.contigKey) : HVal.ofText K key value = some (.text value) := by
  simp [HVal.ofText, h1, h2]

/-- every error of `fromLine` carries the given line number (also as ghost origin) and is one of
    the five per-line categories -/
theorem error_line (K : HConsts) (line : Text) (n : Nat) (e : VErr)
    (h : HRec.fromLine K line n = .error e) :
    e.line = some n ∧ e.origin = some n ∧
      e.tpe ∈ ["HEADER_LINE_MISSING_START_SYMBOL", "HEADER_LINE_MISSING_SEPARATOR",
        "HEADER_LINE_EMPTY_KEY", "HEADER_LINE_EMPTY_VALUE", "HEADER_UNSUPPORTED_SORT_ORDER"] := by
  rcases parse_exact K line n with ⟨-, h2⟩ | ⟨rest, -, -, h2⟩ | ⟨key, v, -, -, h2⟩ <;> rw [h2] at h
  · cases h; simp [lineErr]
  · cases h; simp [lineErr]
  · rcases (kvResult_error_iff K key v n e).1 h with ⟨-, rfl⟩ | ⟨-, -, rfl⟩ | ⟨-, -, -, rfl⟩ <;>
      simp [lineErr]

/-- under `K.WF` the four pragmas are parsed to the right kind of value -/
theorem pragma_version {K : HConsts} (W : K.WF) (v : Text) (n : Nat) (hv : rstripWs v ≠ [])
    (hk : K.versionKey ≠ []) :
    HRec.fromLine K (K.startSymbol :: (K.versionKey ++ ' ' :: v)) n =
      .ok { key := K.versionKey, value := .text (rstripWs v) } := by
  rw [fromLine_kv K _ v n (W.keys_noblank _ (by simp [HConsts.specialKeys]))]
  exact kv_text K n hk hv W.version_ne_sort W.version_ne_contig

theorem pragma_annotation {K : HConsts} (W : K.WF) (v : Text) (n : Nat) (hv : rstripWs v ≠ [])
    (hk : K.annotationKey ≠ []) :
    HRec.fromLine K (K.startSymbol :: (K.annotationKey ++ ' ' :: v)) n =
      .ok { key := K.annotationKey, value := .text (rstripWs v) } := by
  rw [fromLine_kv K _ v n (W.keys_noblank _ (by simp [HConsts.specialKeys]))]
  exact kv_text K n hk hv W.annotation_ne_sort W.annotation_ne_contig

theorem pragma_contigs {K : HConsts} (W : K.WF) (v : Text) (n : Nat) (hv : rstripWs v ≠ [])
    (hk : K.contigKey ≠ []) :
    HRec.fromLine K (K.startSymbol :: (K.contigKey ++ ' ' :: v)) n =
      .ok { key := K.contigKey, value := .contigs (splitOn ',' (rstripWs v)) } := by
  rw [fromLine_kv K _ v n (W.keys_noblank _ (by simp [HConsts.specialKeys]))]
  exact kv_contigs K n hk hv (Ne.symm W.sort_ne_contig) rfl

theorem pragma_sort_order {K : HConsts} (W : K.WF) (v : Text) (n : Nat) (o : Order)
    (ho : orderOfName K (rstripWs v) = some o) (hk : K.sortOrderKey ≠ []) :
    HRec.fromLine K (K.startSymbol :: (K.sortOrderKey ++ ' ' :: v)) n =
      .ok { key := K.sortOrderKey, value := .sortOrder o [] } := by
  rw [fromLine_kv K _ v n (W.keys_noblank _ (by simp [HConsts.specialKeys]))]
  refine kv_sort_order K n hk ?_ rfl ho
  intro e
  rw [← orderOfName_name W ho] at e
  exact o.name_ne_nil e

theorem fromLine_canon {K : HConsts} (W : K.WF) {line : Text} {n : Nat} {r : HRec}
    (h : HRec.fromLine K line n = .ok r) : r.Canon K ∧ r.reset = r := by
  obtain ⟨v, -, h1, h2, h3, h4⟩ := (fromLine_ok_iff K line n r).mp h
  have := HVal.ofText_canon W h3 (rstripChars_idem _ v) h4
  exact ⟨⟨h2, h1, this.1⟩, by simp [HRec.reset, this.2.1]⟩

/-! ## `parse_exact`: all lines -/

/-- the parse of `lines` into an empty header with stringency `m` (the line-by-line part of
    `MafHeader.from_lines`) -/
abbrev parsed (K : HConsts) (lines : List Text) (m : Mode) : Header :=
  Header.parseLines K 1 lines { mode := m }

/-- **The kept records are exactly the first well-formed line of each key, in order of first
    occurrence**, each filed under its own key. -/
theorem parse_kept (K : HConsts) (lines : List Text) (m : Mode) :
    (parsed K lines m).recs = (keepFirst (okRecs K lines)).map (fun r => (r.key, r)) := by
  rw [parsed, parseLines_empty]

/-- `okRecs`: the results of the well-formed lines -/
theorem mem_okRecs_iff (K : HConsts) (lines : List Text) (r : HRec) :
    r ∈ okRecs K lines ↔ ∃ l ∈ lines, ∀ n, HRec.fromLine K l n = .ok r := by
  rw [mem_okRecs]
  exact exists_congr fun l => and_congr_right fun _ => ⟨fromLine_ok_indep, fun h => h 0⟩

/-- `keepFirst`, declaratively: a record is kept iff no record before it has its key … -/
theorem kept_iff_first (rs : List HRec) (r : HRec) :
    r ∈ keepFirst rs ↔ ∃ pre post, rs = pre ++ r :: post ∧ ∀ s ∈ pre, s.key ≠ r.key := by
  induction rs with
  | nil => simp [keepFirst]
  | cons a rs ih =>
    simp only [keepFirst, List.mem_cons, List.mem_filter, ih]
    constructor
    · rintro (rfl | ⟨⟨pre, post, rfl, hp⟩, hne⟩)
      · exact ⟨[], rs, rfl, by simp⟩
      · refine ⟨a :: pre, post, rfl, ?_⟩
        intro s hs
        rcases List.mem_cons.1 hs with rfl | hs
        · exact Ne.symm (of_decide_eq_true hne)
        · exact hp s hs
    · rintro ⟨pre, post, e, hp⟩
      cases pre with
      | nil => simp at e; exact .inl e.1.symm
      | cons b pre =>
        simp at e
        obtain ⟨rfl, rfl⟩ := e
        exact .inr ⟨⟨pre, post, rfl, fun s hs => hp s (by simp [hs])⟩,
          decide_eq_true (Ne.symm (hp a (by simp)))⟩

/-- … the kept records are the subsequence at the positions of first occurrence (this fixes the
    order) … -/
theorem kept_positions (rs : List HRec) :
    keepFirst rs =
      (rs.zipIdx.filter (fun p => (rs.take p.2).all (fun s => s.key ≠ p.1.key))).map (·.1) :=
  keepFirst_positions rs 0

/-- … and their keys are pairwise distinct. -/
theorem kept_keys_distinct (K : HConsts) (lines : List Text) (m : Mode) :
    (parsed K lines m).keys.Pairwise (· ≠ ·) := by
  rw [Header.keys, parse_kept, List.map_map]
  exact keepFirst_keys_distinct _

/-- a lookup in the parsed header finds the first well-formed line with that key -/
theorem parse_get (K : HConsts) (lines : List Text) (m : Mode) (k : Text) :
    (parsed K lines m).get k = (okRecs K lines).find? (fun r => r.key == k) := by
  simp only [Header.get, Header.get.tdictGetH, parse_kept, List.find?_map, Option.map_map]
  rw [show ((fun p : Text × HRec => p.1 == k) ∘ fun r : HRec => (r.key, r)) =
    (fun r => r.key == k) from rfl, find?_keepFirst]
  cases (okRecs K lines).find? (fun r => r.key == k) <;> rfl

/-- **The errors are, in line order, the diagnosis of each line**: line number `n` (1-based) is
    diagnosed against the keys of the well-formed lines before it. -/
theorem parse_errors (K : HConsts) (lines : List Text) (m : Mode) :
    (parsed K lines m).errors =
      (lines.zipIdx 1).flatMap
        (fun p => lineDiag K (okKeys K (lines.take (p.2 - 1))) p.1 p.2) := by
  rw [parsed, parseLines_empty, errsFrom_eq_flatMap]
  simp

/-- the diagnosis of one line: its own error; `HEADER_DUPLICATE_KEYS` when it is well-formed and
    an earlier well-formed line has its key; nothing otherwise -/
theorem diag_error {K : HConsts} {seen : List Text} {l : Text} {n : Nat} {e : VErr}
    (h : HRec.fromLine K l n = .error e) : lineDiag K seen l n = [e] := by
  simp [lineDiag, h]

theorem diag_duplicate {K : HConsts} {seen : List Text} {l : Text} {n : Nat} {r : HRec}
    (h : HRec.fromLine K l n = .ok r) (hk : r.key ∈ seen) :
    lineDiag K seen l n = [lineErr "HEADER_DUPLICATE_KEYS" n] := by
  simp [lineDiag, h, hk]

theorem diag_kept {K : HConsts} {seen : List Text} {l : Text} {n : Nat} {r : HRec}
    (h : HRec.fromLine K l n = .ok r) (hk : r.key ∉ seen) : lineDiag K seen l n = [] := by
  simp [lineDiag, h, hk]

/-- "already seen" means: the key of an earlier well-formed line -/
theorem mem_okKeys_iff (K : HConsts) (pre : List Text) (k : Text) :
    k ∈ okKeys K pre ↔ ∃ l ∈ pre, ∃ s, (∀ n, HRec.fromLine K l n = .ok s) ∧ s.key = k := by
  simp only [okKeys, List.mem_map, mem_okRecs_iff]
  constructor
  · rintro ⟨s, ⟨l, hl, h⟩, rfl⟩; exact ⟨l, hl, s, h, rfl⟩
  · rintro ⟨l, hl, s, h, rfl⟩; exact ⟨s, ⟨l, hl, h⟩, rfl⟩

/-- a line gets at most one error -/
theorem diag_length_le_one (K : HConsts) (seen : List Text) (l : Text) (n : Nat) :
    (lineDiag K seen l n).length ≤ 1 := by
  unfold lineDiag
  split
  · simp
  · split <;> simp

theorem diag_line {K : HConsts} {seen : List Text} {l : Text} {n : Nat} {e : VErr}
    (h : e ∈ lineDiag K seen l n) : e.line = some n ∧ e.origin = some n := by
  unfold lineDiag at h
  split at h
  · rename_i e' he
    simp only [List.mem_singleton] at h
    subst h
    exact ⟨(error_line K l n _ he).1, (error_line K l n _ he).2.1⟩
  · split at h
    · simp only [List.mem_singleton] at h
      subst h
      exact ⟨rfl, rfl⟩
    · simp at h

/-- **`line_numbers`**: every error of the parse reports the 1-based position of its line, and is
    the diagnosis of that line. -/
theorem line_numbers (K : HConsts) (lines : List Text) (m : Mode) :
    ∀ e ∈ (parsed K lines m).errors,
      ∃ n, e.line = some n ∧ e.origin = some n ∧ 1 ≤ n ∧ ∃ hn : n - 1 < lines.length,
        n ≤ lines.length ∧
        e ∈ lineDiag K (okKeys K (lines.take (n - 1))) (lines[n - 1]) n := by
  intro e he
  rw [parse_errors, List.mem_flatMap] at he
  obtain ⟨⟨l, n⟩, hp, hd⟩ := he
  obtain ⟨h1, h2, h3⟩ := List.mem_zipIdx hp
  simp only at hd h3
  refine ⟨n, (diag_line hd).1, (diag_line hd).2, h1, by omega, by omega, ?_⟩
  rw [← h3]; exact hd

theorem parse_mode (K : HConsts) (lines : List Text) (m : Mode) : (parsed K lines m).mode = m := by
  rw [parsed, parseLines_empty]

theorem parse_inv {K : HConsts} (W : K.WF) (lines : List Text) (m : Mode) :
    (parsed K lines m).Inv K ∧ (parsed K lines m).Fresh := by
  have hmem : ∀ p ∈ (parsed K lines m).recs, p.2.key = p.1 ∧ p.2.Canon K ∧ p.2.reset = p.2 := by
    intro p hp
    rw [parse_kept] at hp
    obtain ⟨r, hr, rfl⟩ := List.mem_map.mp hp
    obtain ⟨l, -, hl⟩ := mem_okRecs.mp (mem_keepFirst_mem hr)
    exact ⟨rfl, fromLine_canon W hl⟩
  exact ⟨⟨fun p hp => (hmem p hp).1, fun p hp => (hmem p hp).2.1, kept_keys_distinct K lines m⟩,
    fun p hp => (hmem p hp).2.2⟩

/-! ## `print_parse_id` -/

/-- **Printing is faithful**: a kept line prints as itself minus the trailing whitespace. -/
theorem render_parsed_line {K : HConsts} (W : K.WF) {key v : Text} {n : Nat} {r : HRec}
    (hk : ' ' ∉ key) (h : HRec.fromLine K (K.startSymbol :: (key ++ ' ' :: v)) n = .ok r) :
    r.render K = K.startSymbol :: (key ++ ' ' :: rstripWs v) :=
  fromLine_render_line W hk h

/-- **Parsing a printed canonical record gives the record back** (a sort order without its contig
    list, which `fromLine` never sets and `applyContigs` restores). -/
theorem parse_render_record {K : HConsts} {r : HRec} (h : r.Canon K) (n : Nat) :
    HRec.fromLine K (r.render K) n = .ok r.reset :=
  fromLine_render h n

/-- Re-parsing the printed lines of any header satisfying the invariant: no errors, and the same
    records up to the contig lists of sort orders. -/
theorem reparse {K : HConsts} {h : Header} (hi : h.Inv K) (m' : Mode) :
    Header.parseLines K 1 (h.renderLines K) { mode := m' } =
      { recs := h.recs.map (fun p => (p.1, p.2.reset)), errors := [], mode := m' } := by
  exact (parseLines_rendered h.recs 1 { mode := m' } (fun p hp => ⟨hi.key_eq p hp, hi.canon p hp⟩)
    hi.distinct (by simp [Header.keys])).trans (by simp)

private theorem reparse_parsed {K : HConsts} (W : K.WF) (lines : List Text) (m m' : Mode) :
    Header.parseLines K 1 (((parsed K lines m).applyContigs K).renderLines K) { mode := m' } =
      { recs := (parsed K lines m).recs, errors := [], mode := m' } := by
  have hp := parse_inv W lines m
  rw [reparse (applyContigs_inv hp.1) m', applyContigs_reset hp.1, hp.2.map_reset]

/-- **`print_parse_id`**: print the header parsed from `lines` (with the contigs applied to the sort
    order) and parse the printed lines again: the second parse reports no error, keeps exactly the
    records of the first parse, and after `applyContigs` has exactly the records of the printed
    header. -/
theorem print_parse_id {K : HConsts} (W : K.WF) (lines : List Text) (m m' : Mode) :
    let h := (parsed K lines m).applyContigs K
    let q := Header.parseLines K 1 (h.renderLines K) { mode := m' }
    q.errors = [] ∧ q.recs = (parsed K lines m).recs ∧ (q.applyContigs K).recs = h.recs := by
  intro h q
  have hq : q = _ := reparse_parsed W lines m m'
  exact ⟨by rw [hq], by rw [hq], applyContigs_recs_congr K (by rw [hq])⟩

/-- with the same stringency the whole header comes back, minus the errors of the first parse
    (the printed header is error-free) -/
theorem print_parse_id_header {K : HConsts} (W : K.WF) (lines : List Text) (m : Mode) :
    let h := (parsed K lines m).applyContigs K
    (Header.parseLines K 1 (h.renderLines K) { mode := m }).applyContigs K =
      { h with errors := [] } := by
  intro h
  rw [reparse_parsed W lines m m, applyContigs_mk, Header.mk.injEq]
  exact ⟨rfl, rfl, ((applyContigs_mode K _).trans (parse_mode K lines m)).symm⟩

/-- consequently printing is a fixpoint: the re-parsed header prints the same lines -/
theorem print_fixpoint {K : HConsts} (W : K.WF) (lines : List Text) (m m' : Mode) :
    let h := (parsed K lines m).applyContigs K
    ((Header.parseLines K 1 (h.renderLines K) { mode := m' }).applyContigs K).renderLines K =
      h.renderLines K := by
  intro h
  exact congrArg (fun rs => rs.map (fun p => p.2.render K)) (print_parse_id W lines m m').2.2

/-! ## `accessors` -/

theorem get_iff_mem {h : Header} (hd : h.keys.Pairwise (· ≠ ·)) (k : Text) (r : HRec) :
    h.get k = some r ↔ (k, r) ∈ h.recs :=
  ⟨Header.mem_of_get, Header.get_of_mem hd⟩

theorem get_none_iff (h : Header) (k : Text) : h.get k = none ↔ k ∉ h.keys :=
  Header.get_eq_none_iff h k

/-- `version()` is the printed value of the kept version pragma … -/
theorem version_iff {K : HConsts} {h : Header} (hd : h.keys.Pairwise (· ≠ ·)) (t : Text) :
    h.version K = some t ↔ ∃ r, (K.versionKey, r) ∈ h.recs ∧ r.value.str = t := by
  simp only [Header.version, Option.map_eq_some_iff, get_iff_mem hd]

/-- … and `None` exactly when there is none -/
theorem version_none_iff (K : HConsts) (h : Header) :
    h.version K = none ↔ K.versionKey ∉ h.keys := by
  simp only [Header.version, Option.map_eq_none_iff, get_none_iff]

theorem annotation_iff {K : HConsts} {h : Header} (hd : h.keys.Pairwise (· ≠ ·)) (t : Text) :
    h.annotation K = some t ↔ ∃ r, (K.annotationKey, r) ∈ h.recs ∧ r.value.str = t := by
  simp only [Header.annotation, Option.map_eq_some_iff, get_iff_mem hd]

theorem annotation_none_iff (K : HConsts) (h : Header) :
    h.annotation K = none ↔ K.annotationKey ∉ h.keys := by
  simp only [Header.annotation, Option.map_eq_none_iff, get_none_iff]

/-- `contigs()` is the list of the kept contigs pragma … -/
theorem contigs_iff {K : HConsts} {h : Header} (hd : h.keys.Pairwise (· ≠ ·)) (cs : List Text) :
    h.contigs K = some cs ↔ ∃ r, (K.contigKey, r) ∈ h.recs ∧ r.value = .contigs cs := by
  unfold Header.contigs
  constructor
  · intro hh
    split at hh
    · rename_i hg
      cases hh
      exact ⟨_, (get_iff_mem hd _ _).mp hg, rfl⟩
    · cases hh
  · rintro ⟨⟨k, v⟩, hr, rfl⟩
    rw [(get_iff_mem hd _ _).mpr hr]

theorem contigs_record {K : HConsts} (W : K.WF) {h : Header} (hi : h.Inv K) {r : HRec}
    (hr : (K.contigKey, r) ∈ h.recs) :
    ∃ cs, r.value = .contigs cs ∧ cs ≠ [] ∧ ∀ c ∈ cs, ',' ∉ c := by
  have hc := (hi.canon _ hr).value
  rw [show r.key = K.contigKey from hi.key_eq _ hr] at hc
  cases hv : r.value with
  | contigs cs => rw [hv] at hc; exact ⟨cs, rfl, hc.2.2.1, hc.2.2.2.1⟩
  | text t => rw [hv] at hc; exact absurd rfl hc.2.1
  | sortOrder o cs => rw [hv] at hc; exact absurd hc.1.symm W.sort_ne_contig

/-- … and `None` exactly when there is none -/
theorem contigs_none_iff {K : HConsts} (W : K.WF) {h : Header} (hi : h.Inv K) :
    h.contigs K = none ↔ K.contigKey ∉ h.keys := by
  constructor
  · intro hn hk
    obtain ⟨r, hp⟩ := Header.mem_keys_iff.1 hk
    obtain ⟨cs, hv, -⟩ := contigs_record W hi hp
    have := (contigs_iff hi.distinct cs).mpr ⟨r, hp, hv⟩
    rw [hn] at this; simp at this
  · intro hk
    unfold Header.contigs
    rw [(get_none_iff h _).mpr hk]

/-- `sort_order()` is the order (with its contig list) of the kept sort-order pragma … -/
theorem sortOrder_of_mem {K : HConsts} {h : Header} (hd : h.keys.Pairwise (· ≠ ·)) {r : HRec}
    {o : Order} {cs : List Text} (hr : (K.sortOrderKey, r) ∈ h.recs) (hv : r.value = .sortOrder o cs) :
    h.sortOrder K = (o, cs) := by
  obtain ⟨k, v⟩ := r
  cases hv
  unfold Header.sortOrder
  rw [(get_iff_mem hd _ _).mpr hr]

/-- … and `Unsorted()` when there is none -/
theorem sortOrder_absent {K : HConsts} {h : Header} (hk : K.sortOrderKey ∉ h.keys) :
    h.sortOrder K = (.unsorted, []) := by
  unfold Header.sortOrder
  rw [(get_none_iff h _).mpr hk]

theorem sortOrder_record {K : HConsts} {h : Header} (hi : h.Inv K) {r : HRec}
    (hr : (K.sortOrderKey, r) ∈ h.recs) : ∃ o cs, r.value = .sortOrder o cs := by
  have hc := (hi.canon _ hr).value
  rw [show r.key = K.sortOrderKey from hi.key_eq _ hr] at hc
  cases hv : r.value with
  | sortOrder o cs => exact ⟨o, cs, rfl⟩
  | _ => rw [hv] at hc; exact absurd rfl hc.1

/-- the two cases are exhaustive under the invariant -/
theorem sortOrder_cases {K : HConsts} {h : Header} (hi : h.Inv K) :
    (∃ r o cs, (K.sortOrderKey, r) ∈ h.recs ∧ r.value = .sortOrder o cs ∧ h.sortOrder K = (o, cs)) ∨
    (K.sortOrderKey ∉ h.keys ∧ h.sortOrder K = (.unsorted, [])) := by
  by_cases hk : K.sortOrderKey ∈ h.keys
  · left
    obtain ⟨r, hp⟩ := Header.mem_keys_iff.1 hk
    obtain ⟨o, cs, hv⟩ := sortOrder_record hi hp
    exact ⟨r, o, cs, hp, hv, sortOrder_of_mem hi.distinct hp hv⟩
  · right; exact ⟨hk, sortOrder_absent hk⟩

/-- for a parsed header the accessors read the first well-formed line of the key -/
theorem parsed_version (K : HConsts) (lines : List Text) (m : Mode) :
    (parsed K lines m).version K =
      ((okRecs K lines).find? (fun r => r.key == K.versionKey)).map (·.value.str) := by
  simp only [Header.version, parse_get]

theorem parsed_annotation (K : HConsts) (lines : List Text) (m : Mode) :
    (parsed K lines m).annotation K =
      ((okRecs K lines).find? (fun r => r.key == K.annotationKey)).map (·.value.str) := by
  simp only [Header.annotation, parse_get]

theorem fresh_sortOrder {K : HConsts} {h : Header} (hf : h.Fresh) : (h.sortOrder K).2 = [] := by
  unfold Header.sortOrder
  split
  · rename_i k o cs hg
    simpa [HRec.reset, HVal.reset, eq_comm] using hf _ (Header.mem_of_get hg)
  · rfl

/-- **after `applyContigs`**: version, annotation and contigs are untouched … -/
theorem applyContigs_accessors {K : HConsts} (W : K.WF) {h : Header} (hi : h.Inv K) :
    (h.applyContigs K).version K = h.version K ∧
    (h.applyContigs K).annotation K = h.annotation K ∧
    (h.applyContigs K).contigs K = h.contigs K := by
  refine ⟨?_, ?_, ?_⟩
  · simp only [Header.version, applyContigs_get hi W.version_ne_sort]
  · simp only [Header.annotation, applyContigs_get hi W.annotation_ne_sort]
  · simp only [Header.contigs, applyContigs_get hi (Ne.symm W.sort_ne_contig)]

/-- … and the sort order keeps its order; a sortable one carries exactly the list of the contigs
    pragma (none: the empty list), a non-sortable one carries `[]`. -/
theorem applyContigs_sortOrder {K : HConsts} (W : K.WF) {h : Header} (hi : h.Inv K) (hf : h.Fresh) :
    (h.applyContigs K).sortOrder K =
      ((h.sortOrder K).1, if (h.sortOrder K).1.sortable then (h.contigs K).getD [] else []) := by
  rw [Model.applyContigs_sortOrder hi]
  have h0 := fresh_sortOrder (K := K) hf
  cases hc : h.contigs K with
  | none =>
    simp only [Option.getD_none, ite_self]
    rw [← h0]
  | some cs =>
    obtain ⟨r, hr, hv⟩ := (contigs_iff hi.distinct cs).mp hc
    obtain ⟨cs', hv', hne, -⟩ := contigs_record W hi hr
    rw [hv] at hv'
    injection hv' with hv'
    subst hv'
    have : cs.isEmpty = false := List.isEmpty_eq_false_iff.2 hne
    simp only [this, Bool.not_false, Bool.true_and, Option.getD_some]
    split
    · rfl
    · rw [← h0]

/-- the instance for `from_lines`: the header after the line-by-line parse and `applyContigs` -/
theorem accessors {K : HConsts} (W : K.WF) (lines : List Text) (m : Mode) :
    let p := parsed K lines m
    let h := p.applyContigs K
    h.version K = p.version K ∧ h.annotation K = p.annotation K ∧ h.contigs K = p.contigs K ∧
    h.sortOrder K =
      ((p.sortOrder K).1, if (p.sortOrder K).1.sortable then (p.contigs K).getD [] else []) ∧
    h.Inv K := by
  intro p h
  have hp := parse_inv W lines m
  have := applyContigs_accessors W hp.1
  exact ⟨this.1, this.2.1, this.2.2, applyContigs_sortOrder W hp.1 hp.2, applyContigs_inv hp.1⟩

/-! ## `validate_rules` -/

/-- a header-level error: no line number -/
def headerErr (t : String) : VErr := { tpe := t, line := none }

def versionErrs (K : HConsts) (R : Registry) (h : Header) : List VErr :=
  match h.version K with
  | none => [headerErr "HEADER_MISSING_VERSION"]
  | some v => if String.ofList v ∈ R.supportedVersions then []
              else [headerErr "HEADER_UNSUPPORTED_VERSION"]

def annotationErrs (K : HConsts) (R : Registry) (h : Header) : List VErr :=
  if ∃ s, h.scheme K R = some s ∧ s.isBasic = true then
    (if (h.annotation K).isSome then [headerErr "HEADER_UNSUPPORTED_ANNOTATION_SPEC"] else [])
  else match h.annotation K with
    | none => [headerErr "HEADER_MISSING_ANNOTATION_SPEC"]
    | some a => if String.ofList a ∈ R.supportedAnnotations then []
                else [headerErr "HEADER_UNSUPPORTED_ANNOTATION_SPEC"]

/-- **`validate`**: the records and the stringency are untouched; the version error, then the
    annotation error are appended to the old errors (or to nothing when `reset`); the outcome is
    `processErrors` of the stringency in force on the new error list. -/
theorem validate_rules (K : HConsts) (R : Registry) (h : Header) (mode : Option Mode) (reset : Bool) :
    let errs := (if reset then [] else h.errors) ++ versionErrs K R h ++ annotationErrs K R h
    h.validate K R mode reset =
      ({ h with errors := errs }, processErrors (mode.getD h.mode) errs) := by
  have e1 : (match h.version K with
      | none => [({ tpe := "HEADER_MISSING_VERSION", line := none } : VErr)]
      | some v => if R.supportedVersions.contains (String.ofList v) then []
                  else [{ tpe := "HEADER_UNSUPPORTED_VERSION", line := none }]) =
      versionErrs K R h := by
    unfold versionErrs
    cases h.version K <;> simp [headerErr]
  have e2 : (match (h.scheme K R).filter Scheme.isBasic with
      | some _ => if (h.get K.annotationKey).isSome then
          [({ tpe := "HEADER_UNSUPPORTED_ANNOTATION_SPEC", line := none } : VErr)] else []
      | none => match h.annotation K with
        | none => [{ tpe := "HEADER_MISSING_ANNOTATION_SPEC", line := none }]
        | some a => if R.supportedAnnotations.contains (String.ofList a) then []
                    else [{ tpe := "HEADER_UNSUPPORTED_ANNOTATION_SPEC", line := none }]) =
      annotationErrs K R h := by
    unfold annotationErrs
    have hsome : (h.get K.annotationKey).isSome = (h.annotation K).isSome := by
      simp [Header.annotation]
    cases hs : h.scheme K R with
    | none => cases h.annotation K <;> simp [headerErr]
    | some s =>
      by_cases hb : s.isBasic = true
      · simp [Option.filter, hb, hsome, headerErr]
      · cases h.annotation K <;> simp [Option.filter, hb, headerErr]
  rw [← e1, ← e2]
  rfl

theorem version_rule (K : HConsts) (R : Registry) (h : Header) :
    (h.version K = none → versionErrs K R h = [headerErr "HEADER_MISSING_VERSION"]) ∧
    (∀ v, h.version K = some v → String.ofList v ∈ R.supportedVersions → versionErrs K R h = []) ∧
    (∀ v, h.version K = some v → String.ofList v ∉ R.supportedVersions →
      versionErrs K R h = [headerErr "HEADER_UNSUPPORTED_VERSION"]) := by
  unfold versionErrs
  refine ⟨fun e => by rw [e], fun v e hv => by rw [e]; simp [hv], fun v e hv => by rw [e]; simp [hv]⟩

/-- with a basic scheme an annotation pragma must be absent; otherwise it must be present and
    supported -/
theorem annotation_rule (K : HConsts) (R : Registry) (h : Header) :
    (∀ s, h.scheme K R = some s → s.isBasic = true →
      (annotationErrs K R h = [headerErr "HEADER_UNSUPPORTED_ANNOTATION_SPEC"] ↔
        K.annotationKey ∈ h.keys) ∧
      (annotationErrs K R h = [] ↔ K.annotationKey ∉ h.keys)) ∧
    ((∀ s, h.scheme K R = some s → s.isBasic = false) →
      (h.annotation K = none → annotationErrs K R h = [headerErr "HEADER_MISSING_ANNOTATION_SPEC"]) ∧
      (∀ a, h.annotation K = some a → String.ofList a ∈ R.supportedAnnotations →
        annotationErrs K R h = []) ∧
      (∀ a, h.annotation K = some a → String.ofList a ∉ R.supportedAnnotations →
        annotationErrs K R h = [headerErr "HEADER_UNSUPPORTED_ANNOTATION_SPEC"])) := by
  unfold annotationErrs
  constructor
  · intro s hs hb
    have hk := annotation_none_iff K h
    rw [if_pos ⟨s, hs, hb⟩]
    cases ha : h.annotation K <;> simp_all
  · intro hnb
    rw [if_neg (by rintro ⟨s, hs, hb⟩; simp [hnb s hs] at hb)]
    exact ⟨fun e => by rw [e], fun a e ha => by rw [e]; simp [ha], fun a e ha => by rw [e]; simp [ha]⟩

private theorem header_errs_shape (K : HConsts) (R : Registry) (h : Header) :
    ((∀ e ∈ versionErrs K R h, e.line = none) ∧ (versionErrs K R h).length ≤ 1) ∧
    ((∀ e ∈ annotationErrs K R h, e.line = none) ∧ (annotationErrs K R h).length ≤ 1) := by
  unfold versionErrs annotationErrs
  constructor <;> repeat' split <;> simp [headerErr]

theorem header_errors_no_line (K : HConsts) (R : Registry) (h : Header) :
    ∀ e ∈ versionErrs K R h ++ annotationErrs K R h, e.line = none := fun e he =>
  (List.mem_append.mp he).elim ((header_errs_shape K R h).1.1 e) ((header_errs_shape K R h).2.1 e)

theorem header_errors_le_one (K : HConsts) (R : Registry) (h : Header) :
    (versionErrs K R h).length ≤ 1 ∧ (annotationErrs K R h).length ≤ 1 :=
  ⟨(header_errs_shape K R h).1.2, (header_errs_shape K R h).2.2⟩

/-- the returned header does not depend on the stringency; what the outcome is in each of the three
    is said by the `mode_*` lemmas below -/
theorem modes_header (K : HConsts) (R : Registry) (h : Header) (m m' : Option Mode) (reset : Bool) :
    (h.validate K R m reset).1 = (h.validate K R m' reset).1 := by
  simp only [validate_rules]

theorem mode_silent (errs : List VErr) : processErrors .silent errs = .ok [] := by
  cases errs <;> rfl

theorem mode_lenient (errs : List VErr) :
    processErrors .lenient errs = .ok (errs.map (fun e => { tpe := e.tpe, line := e.line })) := by
  cases errs <;> rfl

theorem mode_strict_nil : processErrors .strict [] = .ok [] := rfl

theorem mode_strict_cons (e : VErr) (es : List VErr) :
    processErrors .strict (e :: es) = .error (.format e.tpe e.line) := rfl

theorem mode_strict_fails_iff (errs : List VErr) :
    (∃ x, processErrors .strict errs = .error x) ↔ errs ≠ [] := by
  cases errs with
  | nil => simp [processErrors]
  | cons e es => simp [processErrors]

/-- `from_lines` is the composition of the three steps characterised above -/
theorem fromLines_eq (K : HConsts) (R : Registry) (lines : List Text) (mode : Option Mode) :
    Header.fromLines K R lines mode =
      ((parsed K lines (modeOrSilent mode)).applyContigs K).validate K R none false := rfl

/-! ## non-vacuity: concrete instances (real constants `K0`) -/

section examples

/- Concrete lines and headers: the kernel alone evaluates them (`decide +kernel`; the elaborator's
   evaluation before it would cost three times as much). -/

private def t (s : String) : Text := s.toList

/-- a header with every kind of line: kept pragmas, a line without separator, a duplicate, an empty
    value, a line without start symbol, an empty key, an unknown sort order -/
def exLines : List Text :=
  [t "#version gdc-1.0.0", t "#key", t "#version other", t "#contigs chr1,chr2,chr10  ",
   t "#sort.order Coordinate", t "#key   ", t "version x", t "# v", t "#sort.order Foo",
   t "#my.key some text"]

-- single lines (`parse_exact`)
example : HRec.fromLine K0 (t "#version gdc-1.0.0") 1 = .ok ⟨t "version", .text (t "gdc-1.0.0")⟩ := by
  decide +kernel
example : HRec.fromLine K0 (t "#contigs chr1,chr2,chr10") 2 =
    .ok ⟨t "contigs", .contigs [t "chr1", t "chr2", t "chr10"]⟩ := by decide +kernel
example : HRec.fromLine K0 (t "#sort.order Coordinate") 3 =
    .ok ⟨t "sort.order", .sortOrder .coordinate []⟩ := by decide +kernel
example : HRec.fromLine K0 (t "#key") 4 = .error (lineErr "HEADER_LINE_MISSING_SEPARATOR" 4) := by
  decide +kernel
example : HRec.fromLine K0 (t "#key   ") 5 = .error (lineErr "HEADER_LINE_EMPTY_VALUE" 5) := by decide +kernel
example : HRec.fromLine K0 (t "key v") 6 = .error (lineErr "HEADER_LINE_MISSING_START_SYMBOL" 6) := by
  decide +kernel
example : HRec.fromLine K0 (t "# v") 7 = .error (lineErr "HEADER_LINE_EMPTY_KEY" 7) := by decide +kernel
example : HRec.fromLine K0 (t "#sort.order Foo") 8 =
    .error (lineErr "HEADER_UNSUPPORTED_SORT_ORDER" 8) := by decide +kernel

-- the hypotheses of the `kv` equivalences are met by a real line
example : HRec.fromLine K0 (K0.startSymbol :: (t "version" ++ ' ' :: t "gdc-1.0.0 ")) 1 =
    .ok ⟨t "version", .text (t "gdc-1.0.0")⟩ :=
  (ok_iff K0 1 (key := t "version") (v := t "gdc-1.0.0 ") (by decide +kernel) _).mpr (by decide +kernel)
example := pragma_version K0_wf (t "gdc-1.0.0") 1 (by decide +kernel) (by decide +kernel)
example := pragma_sort_order K0_wf (t "Coordinate ") 1 .coordinate (by decide +kernel) (by decide +kernel)

-- all lines (`parse_kept`, `parse_errors`, `line_numbers`): the duplicate is reported at line 3
example : (parsed K0 exLines .silent).recs =
    [(t "version", ⟨t "version", .text (t "gdc-1.0.0")⟩),
     (t "contigs", ⟨t "contigs", .contigs [t "chr1", t "chr2", t "chr10"]⟩),
     (t "sort.order", ⟨t "sort.order", .sortOrder .coordinate []⟩),
     (t "my.key", ⟨t "my.key", .text (t "some text")⟩)] := by decide +kernel
example : (parsed K0 exLines .silent).errors =
    [lineErr "HEADER_LINE_MISSING_SEPARATOR" 2, lineErr "HEADER_DUPLICATE_KEYS" 3,
     lineErr "HEADER_LINE_EMPTY_VALUE" 6, lineErr "HEADER_LINE_MISSING_START_SYMBOL" 7,
     lineErr "HEADER_LINE_EMPTY_KEY" 8, lineErr "HEADER_UNSUPPORTED_SORT_ORDER" 9] := by decide +kernel
example : okRecs K0 exLines ≠ keepFirst (okRecs K0 exLines) := by decide +kernel

-- printing and parsing again (`print_parse_id`): the printed header …
example : ((parsed K0 exLines .silent).applyContigs K0).renderLines K0 =
    [t "#version gdc-1.0.0", t "#contigs chr1,chr2,chr10", t "#sort.order Coordinate",
     t "#my.key some text"] := by decide +kernel
-- … and the theorem at this instance (its only hypothesis is `K0.WF`)
example := print_parse_id K0_wf exLines .silent .lenient
example := print_parse_id_header K0_wf exLines .strict

-- accessors: the sortable order carries the contigs
example : ((parsed K0 exLines .silent).applyContigs K0).sortOrder K0 =
    (.coordinate, [t "chr1", t "chr2", t "chr10"]) := by decide +kernel
example : ((parsed K0 exLines .silent).applyContigs K0).version K0 = some (t "gdc-1.0.0") := by
  decide +kernel
example : (parsed K0 [t "#sort.order Unsorted", t "#contigs chr1"] .silent |>.applyContigs K0).sortOrder K0
    = (.unsorted, []) := by decide +kernel
example : (parsed K0 [t "#contigs chr1"] .silent |>.applyContigs K0).sortOrder K0 = (.unsorted, []) := by
  decide +kernel

/-- a small registry: a basic scheme and an annotated one -/
def exRegistry : Registry :=
  { schemes := [{ version := "gdc-1.0.0", annotation := "gdc-1.0.0", cols := [] },
                { version := "gdc-1.0.0", annotation := "gdc-1.0.0-aliquot", cols := [] }],
    supportedVersions := ["gdc-1.0.0"],
    supportedAnnotations := ["gdc-1.0.0", "gdc-1.0.0-aliquot"] }

-- `validate_rules`: every row of the table occurs
example : versionErrs K0 exRegistry (parsed K0 [] .silent) = [headerErr "HEADER_MISSING_VERSION"] ∧
    annotationErrs K0 exRegistry (parsed K0 [] .silent) = [headerErr "HEADER_MISSING_ANNOTATION_SPEC"] := by
  decide +kernel
example : versionErrs K0 exRegistry (parsed K0 [t "#version v9"] .silent) =
    [headerErr "HEADER_UNSUPPORTED_VERSION"] := by decide +kernel
example : versionErrs K0 exRegistry (parsed K0 [t "#version gdc-1.0.0"] .silent) = [] ∧
    annotationErrs K0 exRegistry (parsed K0 [t "#version gdc-1.0.0"] .silent) = [] := by decide +kernel
example : annotationErrs K0 exRegistry
    (parsed K0 [t "#version gdc-1.0.0", t "#annotation.spec gdc-1.0.0"] .silent) =
    [headerErr "HEADER_UNSUPPORTED_ANNOTATION_SPEC"] := by decide +kernel
example : annotationErrs K0 exRegistry
    (parsed K0 [t "#version gdc-1.0.0", t "#annotation.spec gdc-1.0.0-aliquot"] .silent) = [] := by
  decide +kernel
example : annotationErrs K0 exRegistry
    (parsed K0 [t "#version gdc-1.0.0", t "#annotation.spec nope"] .silent) =
    [headerErr "HEADER_UNSUPPORTED_ANNOTATION_SPEC"] := by decide +kernel
-- the three stringencies on a header without version
example : (Header.fromLines K0 exRegistry [t "#key"] (some .strict)).2 =
    .error (.format "HEADER_LINE_MISSING_SEPARATOR" (some 1)) := by decide +kernel
example : (Header.fromLines K0 exRegistry [t "#key"] (some .lenient)).2 =
    .ok [⟨"HEADER_LINE_MISSING_SEPARATOR", some 1⟩, ⟨"HEADER_MISSING_VERSION", none⟩,
         ⟨"HEADER_MISSING_ANNOTATION_SPEC", none⟩] := by decide +kernel
example : (Header.fromLines K0 exRegistry [t "#key"] none).2 = .ok [] := by decide +kernel

end examples

end C13
