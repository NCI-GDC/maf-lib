/-
  C04 — Rendering is a canonical fixpoint (field level).

  For any field text accepted under a column type, rendering the built value
  (`str(column)`, `ColSpec.render`) gives a text that is accepted again and
  denotes the *same* value, that contains no TAB/CR/LF, that renders to itself,
  and that is the preferred null spelling when the value is the null value.

  Operational side: `Model.ColSpec.accept` / `Model.ColSpec.render` over the
  resolved class records `Builtin.expectedOf ty` (tied to the generated class
  table by `C01.builtins_resolve` / `C01.named_resolve`).  Helper lemmas live
  in `Lemmas/Render.lean`.

  Hypotheses:
  * `Render.FloatHost.Lawful' C.H` — the three `FloatHost.Lawful` laws plus
    "`float()` accepts every integer literal" (`parse_int`);
  * `Render.EnumsOK C.enums` — a decidable condition on the enum vocabularies,
    discharged for the generated table by `enumsOK_generated` (`decide +kernel`).

  Known finding: the full statement is FALSE for `SequenceOfNullableYesOrNo`
  (`seq_single_null_counterexample`, `fixpoint_all_false`).
-/
import MafModel.Lemmas.Render
open Model Py Spec Render

namespace C04

/-- what breaks the fixpoint: a one-element list whose element renders as the empty text, so
    that the list renders like the empty list (`Render.SingleEmpty` under the name the statements
    of C04 and C02 use) -/
abbrev SingleEmpty := Render.SingleEmpty

/-- **Tie to the source (regenerated every run).**  The generated enum
    vocabularies satisfy the conditions the fixpoint theorems need: within each
    class the values are pairwise distinct and contain no TAB, CR, LF or `;`;
    the values of the three capitalising classes are fixed by `capitalize`, are
    not `"Null"`, and only a member named `Null` has the value `""`; the values
    of the classes in `Render.nonEmptyClasses` (the three `""`-nullable enumerated
    columns and the element class of `SequenceOfSequencers`) are non-empty. -/
theorem enumsOK_generated : EnumsOK Generated.enums := Render.enumsOK_generated

/-- The fixpoint property of one column type `ty` with resolved class `sp`
    (full strength). -/
def fixpoint_statement (C : Ctx) (sp : ColSpec) (ty : ColType) : Prop :=
  ∀ (t : Text) (v : PyVal),
    (∀ c ∈ t, c ≠ '\t' ∧ c ≠ '\n' ∧ c ≠ '\r') →
    sp.accept C false t = some v →
    ∃ t', sp.render C.enums v = .ok t'
      ∧ (∀ c ∈ t', c ≠ '\t' ∧ c ≠ '\n' ∧ c ≠ '\r')
      ∧ sp.accept C false t' = some v
      ∧ (sp.isNullValue v = true → some t' = preferredNull ty)

/-- The property C04 at full strength: every column type of the development.
    NOT a theorem — see `fixpoint_all_false`. -/
def fixpoint_all : Prop :=
  ∀ (C : Ctx), FloatHost.Lawful' C.H → EnumsOK C.enums →
    ∀ (ty : ColType) (sp : ColSpec), Builtin.expectedOf ty = some sp → fixpoint_statement C sp ty

/-- the context of the counterexample: generated tables, a lawful float host -/
def cexCtx : Ctx := ⟨Generated.classTable, Generated.enums, intHost⟩

/-- Finding, with a kernel-checked witness.  Under `SequenceOfNullableYesOrNo`
    the text `Null` is accepted as the one-element list `[Null]`; that value
    renders as the empty text, which denotes the empty list — a different value. -/
theorem seq_single_null_counterexample :
    Expected.SequenceOfNullableYesOrNo.accept cexCtx false "Null".toList
        = some (.list [.enum "NullableYesOrNoEnum" "Null"])
    ∧ Expected.SequenceOfNullableYesOrNo.render cexCtx.enums (.list [.enum "NullableYesOrNoEnum" "Null"])
        = .ok []
    ∧ Expected.SequenceOfNullableYesOrNo.accept cexCtx false [] = some (.list []) := by
  decide +kernel

theorem fixpoint_all_false : ¬ fixpoint_all := by
  intro h
  obtain ⟨h1, h2, h3⟩ := seq_single_null_counterexample
  have hs := h cexCtx intHost_lawful enumsOK_generated (.named "SequenceOfNullableYesOrNo")
    Expected.SequenceOfNullableYesOrNo (by decide) "Null".toList _ (by decide) h1
  obtain ⟨t', hr, _, ha, _⟩ := hs
  rw [h2] at hr
  injection hr with hr
  subst hr
  rw [h3] at ha
  simp at ha

/-- **C04, every column type but the sequence of nullable yes/no (full strength).** -/
theorem fixpoint (C : Ctx) (hH : FloatHost.Lawful' C.H) (hE : EnumsOK C.enums)
    (ty : ColType) (sp : ColSpec) (h : Builtin.expectedOf ty = some sp)
    (hty : ty ≠ .named "SequenceOfNullableYesOrNo") : fixpoint_statement C sp ty :=
  fun t v hclean hacc => fix_all C hH hE ty sp h t v hclean hacc (fun e => absurd e hty)

/-- **C04, all column types, partial**: the conclusion of `fixpoint_statement`
    for every accepted value that is not a one-element list whose element renders
    as the empty text.  (What is missing for `SequenceOfNullableYesOrNo` is
    exactly the excluded case, for which the property fails.) -/
theorem fixpoint_partial (C : Ctx) (hH : FloatHost.Lawful' C.H) (hE : EnumsOK C.enums)
    (ty : ColType) (sp : ColSpec) (h : Builtin.expectedOf ty = some sp)
    (t : Text) (v : PyVal) (hclean : ∀ c ∈ t, c ≠ '\t' ∧ c ≠ '\n' ∧ c ≠ '\r')
    (hacc : sp.accept C false t = some v) (hse : ¬ SingleEmpty C.enums v) :
    ∃ t', sp.render C.enums v = .ok t'
      ∧ (∀ c ∈ t', c ≠ '\t' ∧ c ≠ '\n' ∧ c ≠ '\r')
      ∧ sp.accept C false t' = some v
      ∧ (sp.isNullValue v = true → some t' = preferredNull ty) :=
  fix_all C hH hE ty sp h t v hclean hacc (fun _ => hse)

/-- the same for `SequenceOfNullableYesOrNo`, under the hypothesis that the
    rendering is not the empty text -/
theorem fixpoint_partial_nonempty (C : Ctx) (hH : FloatHost.Lawful' C.H) (hE : EnumsOK C.enums)
    (t : Text) (v : PyVal) (hclean : ∀ c ∈ t, c ≠ '\t' ∧ c ≠ '\n' ∧ c ≠ '\r')
    (hacc : Expected.SequenceOfNullableYesOrNo.accept C false t = some v)
    (hne : Expected.SequenceOfNullableYesOrNo.render C.enums v ≠ .ok []) :
    ∃ t', Expected.SequenceOfNullableYesOrNo.render C.enums v = .ok t'
      ∧ (∀ c ∈ t', c ≠ '\t' ∧ c ≠ '\n' ∧ c ≠ '\r')
      ∧ Expected.SequenceOfNullableYesOrNo.accept C false t' = some v
      ∧ (Expected.SequenceOfNullableYesOrNo.isNullValue v = true →
          some t' = preferredNull (.named "SequenceOfNullableYesOrNo")) :=
  fixpoint_partial C hH hE (.named "SequenceOfNullableYesOrNo") _ (by decide) t v hclean hacc
    (not_singleEmpty_of_render C.enums _ v rfl rfl hne)

/-- the named types, quantified like `C01.named_resolve`: over the entries of `Expected.named` -/
theorem fixpoint_named (C : Ctx) (hH : FloatHost.Lawful' C.H) (hE : EnumsOK C.enums)
    (n : String) (sp : ColSpec) (h : (n, sp) ∈ Expected.named)
    (hn : n ≠ "SequenceOfNullableYesOrNo") : fixpoint_statement C sp (.named n) := by
  have hall : Expected.named.all (fun p => Expected.namedSpec p.1 == some p.2) = true := by decide
  have hs : Expected.namedSpec n = some sp := by
    simpa using (List.all_eq_true.mp hall) (n, sp) h
  exact fixpoint C hH hE (.named n) sp hs (by simpa using hn)

/-- **Rendering is idempotent**: the rendered text, parsed again, renders to itself. -/
theorem render_idempotent (C : Ctx) (hH : FloatHost.Lawful' C.H) (hE : EnumsOK C.enums)
    (ty : ColType) (sp : ColSpec) (h : Builtin.expectedOf ty = some sp)
    (t : Text) (v : PyVal) (hclean : ∀ c ∈ t, c ≠ '\t' ∧ c ≠ '\n' ∧ c ≠ '\r')
    (hacc : sp.accept C false t = some v) (hse : ¬ SingleEmpty C.enums v)
    (t' : Text) (hr : sp.render C.enums v = .ok t') (v' : PyVal) (ha : sp.accept C false t' = some v') :
    v' = v ∧ sp.render C.enums v' = .ok t' := by
  obtain ⟨t'', hr', _, ha', _⟩ := fixpoint_partial C hH hE ty sp h t v hclean hacc hse
  rw [hr] at hr'
  injection hr' with hr'
  subst hr'
  rw [ha] at ha'
  injection ha' with ha'
  subst ha'
  exact ⟨rfl, hr⟩

/-- the rendered text denotes the same value in the flat specification -/
theorem rendered_denotes (C : Ctx) (hH : FloatHost.Lawful' C.H) (hE : EnumsOK C.enums)
    (ty : ColType) (sp : ColSpec) (h : Builtin.expectedOf ty = some sp)
    (t : Text) (v : PyVal) (hclean : ∀ c ∈ t, c ≠ '\t' ∧ c ≠ '\n' ∧ c ≠ '\r')
    (hacc : sp.accept C false t = some v) (hse : ¬ SingleEmpty C.enums v) :
    ∃ t', sp.render C.enums v = .ok t' ∧ specBuild ⟨C.enums, C.H⟩ ty t' = some v := by
  obtain ⟨t', hr, _, ha, _⟩ := fixpoint_partial C hH hE ty sp h t v hclean hacc hse
  exact ⟨t', hr, by rw [← Builtin.field_accept C ty sp t' h]; exact ha⟩

/-- **Masked types**: only the empty text is accepted, its value `None` renders
    as the empty text. -/
theorem fixpoint_masked (C : Ctx) (b : String) (sp : ColSpec)
    (h : Builtin.expectedOf (.mixed "RequireNullValue" (.named b)) = some sp)
    (t : Text) (v : PyVal) (hacc : sp.accept C false t = some v) :
    t = [] ∧ v = .atom .none ∧ sp.render C.enums v = .ok [] := by
  obtain ⟨h1, h2, hr, _⟩ := fix_masked C b sp h t v hacc
  exact ⟨h1, h2, hr⟩

/-! ### non-vacuity -/

/-- the hypotheses are satisfiable: a lawful float host and the generated vocabularies -/
example : FloatHost.Lawful' cexCtx.H ∧ EnumsOK cexCtx.enums := ⟨intHost_lawful, enumsOK_generated⟩

/-- `"007"` under `ZeroBasedIntegerColumn` ↦ `7` ↦ `"7"` ↦ `7` -/
example : Expected.ZeroBasedIntegerColumn.accept cexCtx false "007".toList = some (.atom (.int 7))
    ∧ Expected.ZeroBasedIntegerColumn.render cexCtx.enums (.atom (.int 7)) = .ok "7".toList
    ∧ Expected.ZeroBasedIntegerColumn.accept cexCtx false "7".toList = some (.atom (.int 7)) := by
  decide +kernel

/-- `"yes"` and `"Yes"` under `NullableYesOrNo` ↦ member `Yes` ↦ `"1"` ↦ member `Yes` -/
example : Expected.NullableYesOrNo.accept cexCtx false "yes".toList = some (.atom (.enum "NullableYesOrNoEnum" "Yes"))
    ∧ Expected.NullableYesOrNo.accept cexCtx false "Yes".toList = some (.atom (.enum "NullableYesOrNoEnum" "Yes"))
    ∧ Expected.NullableYesOrNo.render cexCtx.enums (.atom (.enum "NullableYesOrNoEnum" "Yes")) = .ok "1".toList
    ∧ Expected.NullableYesOrNo.accept cexCtx false "1".toList = some (.atom (.enum "NullableYesOrNoEnum" "Yes")) := by
  decide +kernel

/-- `EntrezGeneId`: zero ↦ null ↦ `"0"` ↦ null -/
example : Expected.EntrezGeneId.accept cexCtx false "000".toList = some (.atom .none)
    ∧ Expected.EntrezGeneId.render cexCtx.enums (.atom .none) = .ok "0".toList
    ∧ Expected.EntrezGeneId.accept cexCtx false "0".toList = some (.atom .none)
    ∧ some "0".toList = preferredNull (.named "EntrezGeneId") := by
  decide +kernel

/-- a sequence that does round-trip, with a null element inside: `"null;YES"` ↦ `[Null, Yes]` ↦ `";1"` -/
example : Expected.SequenceOfNullableYesOrNo.accept cexCtx false "null;YES".toList
      = some (.list [.enum "NullableYesOrNoEnum" "Null", .enum "NullableYesOrNoEnum" "Yes"])
    ∧ Expected.SequenceOfNullableYesOrNo.render cexCtx.enums
        (.list [.enum "NullableYesOrNoEnum" "Null", .enum "NullableYesOrNoEnum" "Yes"]) = .ok ";1".toList
    ∧ Expected.SequenceOfNullableYesOrNo.accept cexCtx false ";1".toList
      = some (.list [.enum "NullableYesOrNoEnum" "Null", .enum "NullableYesOrNoEnum" "Yes"]) := by
  decide +kernel

/-- the side condition of `fixpoint_partial` holds there, fails at the counterexample -/
example : ¬ SingleEmpty cexCtx.enums (.list [.enum "NullableYesOrNoEnum" "Null", .enum "NullableYesOrNoEnum" "Yes"]) := by
  rintro ⟨a, h, _⟩; simp at h
example : SingleEmpty cexCtx.enums (.list [.enum "NullableYesOrNoEnum" "Null"]) := ⟨_, rfl, by decide +kernel⟩

example : ∃ t', Expected.ZeroBasedIntegerColumn.render cexCtx.enums (.atom (.int 7)) = .ok t'
    ∧ Expected.ZeroBasedIntegerColumn.accept cexCtx false t' = some (.atom (.int 7)) := by
  obtain ⟨t', h1, _, h2, _⟩ := fixpoint cexCtx intHost_lawful enumsOK_generated (.named "ZeroBasedIntegerColumn")
    Expected.ZeroBasedIntegerColumn (by decide) (by decide) "007".toList (.atom (.int 7)) (by decide)
    (by decide +kernel)
  exact ⟨t', h1, h2⟩

example : Builtin.expectedOf (.mixed "RequireNullValue" (.named "NullableDnaString")) ≠ none := by decide

end C04
