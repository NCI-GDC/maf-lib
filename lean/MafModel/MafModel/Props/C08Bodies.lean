/-
  C08 / C09 / C07 / C10 — `SortOrderKey.compare` (maflib/sort_order.py), translated from the source on every run and
  interpreted, equals the hand model's `cmpKV` for every pair of key components: `None` sorts last, two integers /
  two texts give the sign of their difference through `int((this > that) - (this < that))`, an integer against a text
  is `TypeError` (raised by the first comparison Python evaluates, `this > that`).
-/
import MafModel.Lemmas.BodiesEmb
import MafModel.Model.SortOrder
open Py PyIR Bodies Model

namespace C08Bodies

def embKV : KV → Val
  | .none => .none
  | .int i => .int i
  | .str s => .str s

/-- interpret `SortOrderKey.compare(this, that)` -/
def compareRun (H : Host) (a b : Val) : Except PyErr Val :=
  (run Generated.Bodies.program H "SortOrderKey" "compare" [.cls "SortOrderKey", a, b]).map (·.1)

-- evaluating a run by `whnf`: plain delta/iota reduction is far cheaper than smart unfolding here (see `C06Bodies`)
set_option smartUnfolding false

/-- `SortOrderKey.compare` is the model's `cmpKV`, for every pair of components.  Two integers or two texts:
    `int((this > that) - (this < that))` is the two tests `b < a`, `a < b` (on integers, resp. on the code-point order);
    every other pair evaluates without a test. -/
theorem compare_eq_cmpKV (H : Host) (a b : KV) :
    compareRun H (embKV a) (embKV b) = (cmpKV a b).map Val.int := by
  cases a <;> cases b
  case int.int a b | str.str a b =>
    refine Tree.Forall.eval (P := fun (r : Except PyErr (Val × Env)) => Except.map (·.1) r = _) ?_
    refine .ask_of rfl (fun h1 => .ask_of rfl (fun h2 => .done_of rfl ?_) fun h2 => .done_of rfl ?_)
      fun h1 => .ask_of rfl (fun h2 => .done_of rfl ?_) fun h2 => .done_of rfl ?_
    all_goals
      show _ = Except.ok (Val.int ((if decide (b < a) then 1 else 0) - (if decide (a < b) then 1 else 0)))
      rw [show decide (b < a) = _ from h1, show decide (a < b) = _ from h2]; rfl
  all_goals rfl

end C08Bodies
