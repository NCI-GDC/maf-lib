/-
  C14 at the shipped data: the hypotheses of the C14 theorems hold for
  `Generated.schemeDefs` / `Generated.classTable`, by `decide +kernel`.  The evaluation takes
  minutes, which is why this file is separate from `Props/C14`.
-/
import MafModel.Props.C14
import MafModel.Generated.SchemeDefs
import MafModel.Generated.ClassTable
import MafModel.Generated.Consts
open Py Model SchemeLemmas

namespace C14

/-- the state in which `load_all_schemes` starts the factory -/
def genSt : BuildState := { tbl := Generated.classTable, order := Generated.extendClassOrder }

theorem generated_defsOK : DefsOK Generated.schemeDefs := by decide +kernel

theorem generated_grounded :
    ∀ d ∈ Generated.schemeDefs, grounded Generated.schemeDefs d.annotation := by decide +kernel

theorem generated_filtersOK : FiltersOK Generated.schemeDefs := by decide +kernel

/-- the class-level hypotheses, including that no two synthesised class names collide -/
theorem generated_classHyps : (match buildSchemes genSt Generated.schemeDefs with
    | .ok r => decide (ClassHyps Generated.schemeDefs genSt r.1)
    | .error _ => false) = true := by decide +kernel

/-- the shipped definitions build, in *every* load order and from any initial class
    table, and every load order yields the same versions, annotations and column names:
    those of `Spec.layoutOf` -/
theorem generated_any_order (ds' : List SchemeDef) (hp : Generated.schemeDefs.Perm ds')
    (st' : BuildState) :
    ∃ st1 built, buildSchemes st' ds' = .ok (st1, built) ∧
      ∀ d ∈ Generated.schemeDefs, ∃ s l, dictGet built d.annotation = some s ∧
        s.version = d.version ∧ s.annotation = d.annotation ∧
        Spec.layoutOf Generated.schemeDefs d.annotation = some l ∧ s.names = l.map (·.1) := by
  have hds' := generated_defsOK.perm hp
  have hok : ∃ r, buildSchemes genSt Generated.schemeDefs = .ok r :=
    (build_ok_iff generated_defsOK generated_filtersOK genSt).2 generated_grounded
  obtain ⟨⟨st1, built⟩, h⟩ := ((order_independent hp generated_defsOK genSt st').1).1 hok
  refine ⟨st1, built, h, fun d hd => ?_⟩
  obtain ⟨s, l, h1, h2, h3, h4, h5⟩ := layout_eq_resolve hds' h d (hp.mem_iff.1 hd)
  exact ⟨s, l, h1, h2, h3, by rw [layoutOf_perm hp generated_defsOK.1]; exact h4, h5⟩

/-- `class_layout` for the shipped definitions -/
theorem generated_class_layout {st1 : BuildState} {built : List (String × Scheme)}
    (h : buildSchemes genSt Generated.schemeDefs = .ok (st1, built)) :
    ∀ d ∈ Generated.schemeDefs, ∃ s l, dictGet built d.annotation = some s ∧
      Spec.layoutOf Generated.schemeDefs d.annotation = some l ∧
      readLayout st1.tbl s = l.map (fun q => (q.1, some q.2)) := by
  have hc := generated_classHyps
  rw [h] at hc
  exact class_layout generated_defsOK h (of_decide_eq_true hc)

end C14
