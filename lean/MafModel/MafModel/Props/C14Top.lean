/-
  C14 for `build_schemes` as a whole (`buildSchemesTop`): duplicate annotations are rejected
  before the loop, a definition without a base has its own `filtered` list applied
  (`combine_columns(base_columns=[], …)`), then the loop of `Props/C14.lean` runs.
-/
import MafModel.Props.C14
import MafModel.Lemmas.RegistryLemmas
import MafModel.Generated.SchemeDefs
open Model Py Spec

namespace C14Top

/-- two definitions of one annotation are rejected with an error (ValueError),
    whatever the load order -/
theorem duplicate_annotation_rejected (st : BuildState) (ds : List SchemeDef)
    (h : ¬ (ds.map (·.annotation)).Nodup) : buildSchemesTop st ds = .error .value := by
  simp [buildSchemesTop, h]

/-- a filtered column that does not exist in a definition without a base is rejected -/
theorem baseless_missing_filter_rejected (st : BuildState) (ds : List SchemeDef) (d : SchemeDef)
    (hd : d ∈ ds) (hb : d.hasBase = none) (f : List String) (hf : d.filtered = some f)
    (n : String) (hn : n ∈ f) (hmiss : ∀ c ∈ d.columns, c.1 ≠ n) :
    buildSchemesTop st ds = .error .value := by
  unfold buildSchemesTop
  split
  · rfl
  · -- were the definitions normalised, `d` would be, and `n` would be one of its columns
    cases hm : ds.mapM SchemeDef.normalize with
    | none => rfl
    | some ds' =>
      obtain ⟨c, hc, hcn⟩ := List.mem_map.1
        ((RegistryLemmas.normalize_baseless ((RegistryLemmas.mapM_normalize_some hm).1 d hd) hb hf).2.2 n hn)
      exact absurd hcn (hmiss c hc)

/-- definitions that need no normalisation are built by the loop of `Props/C14.lean`,
    so all of its theorems apply to the entry point -/
theorem top_eq_build (st : BuildState) (ds : List SchemeDef)
    (hnd : (ds.map (·.annotation)).Nodup)
    (hflt : ∀ d ∈ ds, d.hasBase = none → d.filtered = none) :
    buildSchemesTop st ds = buildSchemes st ds :=
  RegistryLemmas.buildSchemesTop_of hnd (RegistryLemmas.mapM_normalize_id hflt)

/-- the hypotheses of `top_eq_build` hold of the shipped definitions -/
theorem generated_top_eq_build :
    (Generated.schemeDefs.map (·.annotation)).Nodup ∧
    ∀ d ∈ Generated.schemeDefs, d.hasBase = none → d.filtered = none := by
  decide +kernel

end C14Top
