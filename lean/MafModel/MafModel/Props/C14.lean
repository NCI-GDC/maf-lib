/-
  C14 — scheme resolution and inheritance.

  The loop of `build_schemes` in `maflib/scheme_factory.py` (`buildSchemes`: "repeatedly
  build the first definition whose base is already built", `combine_columns` on Python
  dictionaries, `extend_class`) against the declarative layout `Spec.resolve`: the loop
  succeeds exactly when every `extends` chain ends inside the set and every `filtered` name
  exists, every failure is a `ValueError`, and what it builds is the declarative layout,
  whatever the order in which the definitions were loaded.  The check for duplicate
  annotations that `build_schemes` makes before the loop is in `Props/C14Top.lean`.

  The only conditional part: the class-level statements (`class_layout`,
  `order_independent_classes`) assume `ClassHyps`, whose last field says that the
  class names of the *final* table are pairwise distinct, i.e. that the names the
  model invents for synthesised classes did not collide (Python creates fresh class
  objects; the model's string names `(extra+base)@ann#col#k` are not injective for
  arbitrary strings).  It is decidable and checked for the concrete runs below and,
  in `C14Generated`, for the shipped definitions.
-/
import MafModel.Lemmas.SchemeLemmas
open Py Model SchemeLemmas

namespace C14

/-! ## 1. when does `build_schemes` succeed -/

/-- `build_schemes` either succeeds or raises `ValueError`; the model's internal
    `unmodelled` errors (fuel, index) never occur.  No hypotheses. -/
theorem build_ok_or_value (st : BuildState) (ds : List SchemeDef) :
    (∃ r, buildSchemes st ds = .ok r) ∨ buildSchemes st ds = .error .value :=
  (buildSchemesAux_rule (fun _ _ _ => True) (fun _ _ _ _ _ _ _ _ _ _ _ _ => trivial)
    _ st ds [] (Nat.le_refl _) trivial).ok_or_value

theorem final_entry {ds : List SchemeDef} (hds : DefsOK ds) {st : BuildState} {r}
    (h : buildSchemes st ds = .ok r) {d : SchemeDef} (hd : d ∈ ds) :
    ∃ s l, dictGet r.2 d.annotation = some s ∧ s.version = d.version ∧ s.annotation = d.annotation ∧
      filterOKd ds d = true ∧ Spec.layoutOf ds d.annotation = some l ∧ s.names = l.map (·.1) := by
  obtain ⟨s, hg, hB⟩ := ((entry_run hds st).inv h).entry hds.1 hd
  obtain ⟨l, hl, hL⟩ := hB.prop.layout
  exact ⟨s, l, hg, hB.version, hB.annotation, hB.prop.filter, hl, hL.names⟩

/-- Full characterisation: for a well-formed definition set the factory succeeds
    exactly when every definition is grounded and every `filtered` name exists. -/
theorem build_ok_iff_full {ds : List SchemeDef} (hds : DefsOK ds) (st : BuildState) :
    (∃ r, buildSchemes st ds = .ok r) ↔ (∀ d ∈ ds, grounded ds d.annotation) ∧ FiltersOK ds := by
  constructor
  · rintro ⟨r, h⟩
    refine ⟨fun d hd => ?_, fun d hd => ?_⟩ <;> obtain ⟨s, l, _, _, _, hf, hl, _⟩ := final_entry hds h hd
    · exact fun e => Option.some_ne_none l (hl.symm.trans e)
    · exact hf
  · rintro ⟨hg, hf⟩
    -- the run does not stop early: some unbuilt definition is ready, and it builds
    refine (entry_run hds st).ok_of_not_stuck fun st' data built hinv ⟨hne, hstuck⟩ => ?_
    obtain ⟨d0, hd0⟩ := List.exists_mem_of_ne_nil data hne
    obtain ⟨dr, hdr, hready⟩ := exists_ready hds.1 hinv (hg d0 (hinv.sub d0 hd0))
      (findDef_of_mem hds.1 (hinv.sub d0 hd0)) hd0
    cases hi : data.findIdx? (readyB built) with
    | none => rw [List.findIdx?_eq_none_iff.1 hi dr hdr] at hready; cases hready
    | some i =>
      obtain ⟨hlt, hp, _⟩ := List.findIdx?_eq_some_iff_getElem.1 hi
      have hd := hinv.sub _ (List.getElem_mem hlt)
      obtain ⟨r, hb⟩ := (step_entry hds hinv hd hp).1 (hf _ hd)
      rw [hstuck i _ hi (List.getElem?_eq_getElem hlt)] at hb
      cases hb

/-- **C14.1** — with existing `filtered` names, `build_schemes` succeeds exactly when every
    `extends` chain stays inside the set and ends. -/
theorem build_ok_iff {ds : List SchemeDef} (hds : DefsOK ds) (hf : FiltersOK ds) (st : BuildState) :
    (∃ r, buildSchemes st ds = .ok r) ↔ ∀ d ∈ ds, grounded ds d.annotation := by
  rw [build_ok_iff_full hds st]
  exact ⟨fun h => h.1, fun h => ⟨h, hf⟩⟩

/-- an unknown base or an inheritance cycle is a `ValueError` -/
theorem ungrounded_rejected {ds : List SchemeDef} (hds : DefsOK ds) (st : BuildState)
    {d : SchemeDef} (hd : d ∈ ds) (h : ¬ grounded ds d.annotation) :
    buildSchemes st ds = .error .value := by
  rcases build_ok_or_value st ds with hok | herr
  · exact absurd (((build_ok_iff_full hds st).1 hok).1 d hd) h
  · exact herr

/-- a `filtered` column that does not exist is a `ValueError` -/
theorem missing_filter_rejected {ds : List SchemeDef} (hds : DefsOK ds) (st : BuildState)
    {d : SchemeDef} (hd : d ∈ ds) {b : String} {bl : Spec.Layout} {f : List String} {n : String}
    (hb : d.hasBase = some b) (hbl : Spec.layoutOf ds b = some bl) (hf : d.filtered = some f)
    (hn : n ∈ f) (hn1 : n ∉ bl.map (·.1)) (hn2 : n ∉ d.columns.map (·.1)) :
    buildSchemes st ds = .error .value := by
  rcases build_ok_or_value st ds with hok | herr
  · exfalso
    have := ((build_ok_iff_full hds st).1 hok).2 d hd
    simp only [filterOKd, hb, hbl, filtOK, hf, List.all_eq_true] at this
    have := this n hn
    simp only [allNames, List.contains_eq_mem, List.mem_append, List.mem_filter,
      decide_eq_true_eq] at this
    rcases this with h | h
    · exact hn1 h
    · exact hn2 h.1
  · exact herr


/-- `grounded` is "following `base` reaches a base-less definition inside `ds` within
    `ds.length` steps" -/
def reaches (ds : List SchemeDef) : Nat → String → Bool
  | 0, _ => false
  | n + 1, a =>
    match Spec.findDef ds a with
    | none => false
    | some d =>
      match d.hasBase with
      | none => true
      | some b => reaches ds n b

theorem resolve_isSome_eq_reaches (ds : List SchemeDef) (n : Nat) (a : String) :
    (Spec.resolve ds n a).isSome = reaches ds n a := by
  induction n generalizing a with
  | zero => rfl
  | succ n ih =>
    unfold Spec.resolve reaches
    cases Spec.findDef ds a with
    | none => rfl
    | some d =>
      simp only []
      cases d.hasBase with
      | none => rfl
      | some b => simp only [Option.isSome_map, ih]

theorem grounded_iff_reaches (ds : List SchemeDef) (a : String) :
    grounded ds a ↔ reaches ds ds.length a = true := by
  unfold grounded Spec.layoutOf
  rw [← resolve_isSome_eq_reaches, Option.isSome_iff_ne_none]

/-! ## 2. the operational layout is the declarative one -/

/-- **C14.2** — every definition is in the result under its annotation, with its own
    version and annotation, and its column names are exactly those of
    `Spec.layoutOf`: the base layout in base order without the filtered columns, then
    the new columns in declaration order, a redefined column keeping its base position. -/
theorem layout_eq_resolve {ds : List SchemeDef} (hds : DefsOK ds) {st st' : BuildState}
    {built : List (String × Scheme)} (h : buildSchemes st ds = .ok (st', built)) :
    ∀ d ∈ ds, ∃ s l, dictGet built d.annotation = some s ∧ s.version = d.version ∧
      s.annotation = d.annotation ∧ Spec.layoutOf ds d.annotation = some l ∧
      s.names = l.map (·.1) := by
  intro d hd
  obtain ⟨s, l, h1, h2, h3, _, h5, h6⟩ := final_entry hds h hd
  exact ⟨s, l, h1, h2, h3, h5, h6⟩

/-- the same with the layout named by `get!` -/
theorem layout_eq_resolve' {ds : List SchemeDef} (hds : DefsOK ds) {st st' : BuildState}
    {built : List (String × Scheme)} (h : buildSchemes st ds = .ok (st', built))
    {d : SchemeDef} (hd : d ∈ ds) :
    ∃ s, dictGet built d.annotation = some s ∧ s.version = d.version ∧ s.annotation = d.annotation ∧
      s.names = (Spec.layoutOf ds d.annotation).get!.map (·.1) := by
  obtain ⟨s, l, h1, h2, h3, h5, h6⟩ := layout_eq_resolve hds h d hd
  exact ⟨s, h1, h2, h3, by rw [h5]; exact h6⟩

theorem built_keys {ds : List SchemeDef} (hds : DefsOK ds) {st st' : BuildState}
    {built : List (String × Scheme)} (h : buildSchemes st ds = .ok (st', built)) :
    (built.map (·.1)).Perm (ds.map (·.annotation)) := by
  simpa using ((entry_run hds st).inv h).perm

/-- the column names of a derived layout without `Spec.applyDef`: the base's names, then the
    new names, then the filter -/
theorem layout_names_derived {ds : List SchemeDef} {n : Nat} {a b : String} {d : SchemeDef} {bl : Spec.Layout}
    (hd : Spec.findDef ds a = some d) (hb : d.hasBase = some b) (hbl : Spec.resolve ds n b = some bl) :
    ∃ l, Spec.resolve ds (n + 1) a = some l ∧
      l.map (·.1) =
        let all := bl.map (·.1) ++ (d.columns.map (·.1)).filter (fun c => !(bl.map (·.1)).contains c)
        match d.filtered with
        | none => all
        | some f => all.filter (fun c => !f.contains c) := by
  refine ⟨Spec.applyDef bl d, ?_, ?_⟩
  · rw [resolve_derived hd hb, hbl]; rfl
  · rw [applyDef_names]; rfl

/-! ### class level -/

/-- a scheme's layout read back through the class table -/
def readLayout (tbl : ClassTable) (s : Scheme) : List (String × Option Spec.ColType) :=
  s.cols.map (fun q => (q.1, typeOfClass tbl q.2))

theorem readLayout_eq (tbl : ClassTable) (s : Scheme) : readLayout tbl s = s.cols.map (rd tbl) :=
  rfl

/-- class-level hypotheses on a run: generated base order `[1, 0]`, no synthesised class
    in the initial table, every column type of `ds` known, and the class names of
    the final table pairwise distinct (the synthesised names did not collide) -/
structure ClassHyps (ds : List SchemeDef) (st st' : BuildState) : Prop where
  order : st.order = [1, 0]
  plain : ∀ e ∈ st.tbl, e.display = none
  known : ∀ d ∈ ds, ∀ c ∈ d.columns, (st.tbl.find c.2).isSome = true
  fresh : (st'.tbl.map (·.name)).Nodup

instance (ds : List SchemeDef) (st st' : BuildState) : Decidable (ClassHyps ds st st') :=
  letI := decNodupStr
  decidable_of_iff (st.order = [1, 0] ∧ (∀ e ∈ st.tbl, e.display = none) ∧
      (∀ d ∈ ds, ∀ c ∈ d.columns, (st.tbl.find c.2).isSome = true) ∧ (st'.tbl.map (·.name)).Nodup)
    ⟨fun ⟨a, b, c, d⟩ => ⟨a, b, c, d⟩, fun ⟨a, b, c, d⟩ => ⟨a, b, c, d⟩⟩

/-- **C14.2/3, class level** — the class at each position of a built scheme reads back
    as the `ColType` of the declarative layout: a redefined column is
    `mixed extra (inherited type)`, i.e. an `extend_class` of the base class and the
    redefining class with bases `[extra, base]`. -/
theorem class_layout {ds : List SchemeDef} (hds : DefsOK ds) {st st' : BuildState}
    {built : List (String × Scheme)} (h : buildSchemes st ds = .ok (st', built))
    (hc : ClassHyps ds st st') :
    ∀ d ∈ ds, ∃ s l, dictGet built d.annotation = some s ∧ Spec.layoutOf ds d.annotation = some l ∧
      readLayout st'.tbl s = l.map (fun q => (q.1, some q.2)) := by
  intro d hd
  obtain ⟨s, hg, hB⟩ := ((entry_run hds st).inv h).entry hds.1 hd
  obtain ⟨l, hl, hL⟩ := hB.prop.layout
  exact ⟨s, l, hg, hl, (readLayout_eq st'.tbl s).trans <| hL.classes
    ⟨hc.order, fun d hd c hcm => typeOfClass_plain hc.plain (hc.known d hd c hcm)⟩ hc.fresh⟩


/-! ## 3. independence of the load order -/

theorem DefsOK.perm {ds ds' : List SchemeDef} (hp : ds.Perm ds') (h : DefsOK ds) : DefsOK ds' :=
  ⟨(hp.map _).nodup_iff.1 h.1, fun d hd => h.2.1 d (hp.mem_iff.2 hd), fun d hd => h.2.2 d (hp.mem_iff.2 hd)⟩

/-- `Spec.resolve` depends only on the *set* of definitions (distinct annotations) -/
theorem _root_.Spec.resolve_perm {ds ds' : List SchemeDef} (hp : ds.Perm ds') (hds : DefsOK ds)
    (n : Nat) (a : String) : Spec.resolve ds n a = Spec.resolve ds' n a :=
  SchemeLemmas.resolve_perm hp hds.1 n a

theorem grounded_perm {ds ds' : List SchemeDef} (hp : ds.Perm ds') (hds : DefsOK ds) (a : String) :
    grounded ds a ↔ grounded ds' a := by
  unfold grounded; rw [layoutOf_perm hp hds.1]

theorem forall_mem_perm {α} {l l' : List α} (hp : l.Perm l') {p q : α → Prop} (h : ∀ a, p a ↔ q a) :
    (∀ a ∈ l, p a) ↔ ∀ a ∈ l', q a :=
  ⟨fun H a ha => (h a).1 (H a (hp.mem_iff.2 ha)), fun H a ha => (h a).2 (H a (hp.mem_iff.1 ha))⟩

theorem FiltersOK_perm {ds ds' : List SchemeDef} (hp : ds.Perm ds') (hds : DefsOK ds) :
    FiltersOK ds ↔ FiltersOK ds' :=
  forall_mem_perm hp fun d => by
    unfold filterOKd
    cases d.hasBase with
    | none => rfl
    | some b => simp only [layoutOf_perm hp hds.1]

/-- Two runs on two load orders answer a lookup alike in any respect (`f`, `f'`) that, for the
    scheme of a definition, is a function `g` of its declarative layout and the definition. -/
theorem lookup_congr {β} {ds ds' : List SchemeDef} (hp : ds.Perm ds') (hds : DefsOK ds)
    {st st' : BuildState} {r r'} (h1 : buildSchemes st ds = .ok r) (h2 : buildSchemes st' ds' = .ok r')
    (f f' : Scheme → β) (g : Spec.Layout → SchemeDef → β)
    (hf : ∀ d ∈ ds, ∃ s l, dictGet r.2 d.annotation = some s ∧
      Spec.layoutOf ds d.annotation = some l ∧ f s = g l d)
    (hf' : ∀ d ∈ ds', ∃ s l, dictGet r'.2 d.annotation = some s ∧
      Spec.layoutOf ds' d.annotation = some l ∧ f' s = g l d) (a : String) :
    (dictGet r.2 a).map f = (dictGet r'.2 a).map f' := by
  by_cases ha : a ∈ ds.map (·.annotation)
  · obtain ⟨d, hd, rfl⟩ := List.mem_map.1 ha
    obtain ⟨s1, l1, g1, e1, n1⟩ := hf d hd
    obtain ⟨s2, l2, g2, e2, n2⟩ := hf' d (hp.mem_iff.1 hd)
    cases e1.symm.trans ((layoutOf_perm hp hds.1 _).trans e2)
    rw [g1, g2, Option.map_some, Option.map_some, n1, n2]
  · have k1 : dictGet r.2 a = none :=
      (dictGet_eq_none_iff _ _).2 fun hm => ha ((built_keys hds h1).mem_iff.1 hm)
    have k2 : dictGet r'.2 a = none := (dictGet_eq_none_iff _ _).2 fun hm =>
      ha ((hp.map _).mem_iff.2 ((built_keys (hds.perm hp) h2).mem_iff.1 hm))
    rw [k1, k2]; rfl

/-- **C14.3** — for two load orders of the same well-formed definition set (and any two
    initial class tables) the factory succeeds or fails together, and on success every
    annotation — known or not — gets the same version, annotation and column names. -/
theorem order_independent {ds ds' : List SchemeDef} (hp : ds.Perm ds') (hds : DefsOK ds)
    (st st' : BuildState) :
    ((∃ r, buildSchemes st ds = .ok r) ↔ (∃ r, buildSchemes st' ds' = .ok r)) ∧
    (∀ r r', buildSchemes st ds = .ok r → buildSchemes st' ds' = .ok r' → ∀ a,
      (dictGet r.2 a).map (fun s => (s.version, s.annotation, s.names)) =
      (dictGet r'.2 a).map (fun s => (s.version, s.annotation, s.names))) := by
  have hds' := hds.perm hp
  constructor
  · rw [build_ok_iff_full hds st, build_ok_iff_full hds' st']
    exact and_congr (forall_mem_perm hp fun d => grounded_perm hp hds _) (FiltersOK_perm hp hds)
  · intro r r' h1 h2
    have key : ∀ {ds st r}, DefsOK ds → buildSchemes st ds = .ok r → ∀ d ∈ ds, ∃ s l,
        dictGet r.2 d.annotation = some s ∧ Spec.layoutOf ds d.annotation = some l ∧
        (s.version, s.annotation, s.names) = (d.version, d.annotation, l.map (·.1)) := by
      intro ds st r hds h d hd
      obtain ⟨s, l, hg, hv, ha, _, hl, hn⟩ := final_entry hds h hd
      exact ⟨s, l, hg, hl, by rw [hv, ha, hn]⟩
    exact lookup_congr hp hds h1 h2 _ _ (fun l d => (d.version, d.annotation, l.map (·.1)))
      (key hds h1) (key hds' h2)

/-- **C14.3, class level** — under the class-level hypotheses on both runs, every
    annotation's columns also read back to the same `ColType`s in both load orders. -/
theorem order_independent_classes {ds ds' : List SchemeDef} (hp : ds.Perm ds') (hds : DefsOK ds)
    {st st' : BuildState} {r r' : BuildState × List (String × Scheme)}
    (h1 : buildSchemes st ds = .ok r) (h2 : buildSchemes st' ds' = .ok r')
    (hc1 : ClassHyps ds st r.1) (hc2 : ClassHyps ds' st' r'.1) (a : String) :
    (dictGet r.2 a).map (readLayout r.1.tbl) = (dictGet r'.2 a).map (readLayout r'.1.tbl) :=
  lookup_congr hp hds h1 h2 _ _ (fun l _ => l.map (fun q => (q.1, some q.2)))
    (class_layout hds h1 hc1) (class_layout (hds.perm hp) h2 hc2) a

/-! ## 4. what a redefinition means: the MRO of the synthesised class -/

/-- a redefinition of column `x.1` (class `x.2`) over an inherited column of class
    `bcls` appends exactly one class: `extend_class` of the two in the generated order -/
theorem redefinition_class (ann : String) (acc : BuildState × List (String × String) × Nat)
    (x : String × String) (bcls : String) (h : dictGet acc.2.1 x.1 = some bcls) :
    (mixStep ann acc x).1.tbl = acc.1.tbl ++
      [extendClass acc.1.order (mixUid ann x bcls acc.2.2) bcls x.2 (pyNameOf acc.1.tbl bcls)] ∧
    dictGet (mixStep ann acc x).2.1 x.1 = some (mixUid ann x bcls acc.2.2) := by
  rw [mixStep_some h]
  exact ⟨rfl, dictGet_dictSet_self _ _ _⟩

/-- general form: the MRO of the synthesised class is `uid :: C3-merge` of the two
    parents' MROs and the base list `[extra, base]` -/
theorem override_mro {tbl : ClassTable} {uid b x nm : String} {mx mb : List String}
    (hfresh : uid ∉ tbl.map (·.name)) (hx : mroOf tbl x = some mx) (hb : mroOf tbl b = some mb) :
    mroOf (tbl ++ [extendClass [1, 0] uid b x nm]) uid =
      (c3merge ((tbl.length + 1) * (tbl.length + 1) + 8) [mx, mb, [x, b]]).map (uid :: ·) :=
  mroOf_extend hfresh hx hb

/-- **C14.4** — the masking mix-in.  `RequireNullValue` (MRO
    `[RequireNullValue, MafColumnRecord]`, defining only `__validate__`) mixed over any
    class `b` whose MRO ends in `MafColumnRecord` (in particular
    `[…, MafCustomColumnRecord, MafColumnRecord]`): the synthesised class has MRO
    `uid :: RequireNullValue :: mro(b)`; its `__validate__` chain is
    `RequireNullValue` followed by the *whole* inherited chain (both constraints are
    enforced), and every other hook (`build`, `validate`, `__build__`,
    `__string_it__`, `__nullable_dict__`) and the null dictionary resolve as in `b`. -/
theorem override_semantics {tbl : ClassTable} {uid b nm : String} {pre : List String} {eR : ClassEntry}
    (hfresh : uid ∉ tbl.map (·.name))
    (hx : mroOf tbl "RequireNullValue" = some ["RequireNullValue", "MafColumnRecord"])
    (hb : mroOf tbl b = some (pre ++ ["MafColumnRecord"]))
    (hnd : (pre ++ ["MafColumnRecord"]).Nodup) (hR : "RequireNullValue" ∉ pre)
    (hfind : tbl.find "RequireNullValue" = some eR) (hhooks : eR.hooks = ["__validate__"])
    (hnull : eR.nullDict = none) :
    let tbl' := tbl ++ [extendClass [1, 0] uid b "RequireNullValue" nm]
    let m := uid :: "RequireNullValue" :: (pre ++ ["MafColumnRecord"])
    mroOf tbl' uid = some m ∧
    hookChain tbl' m "__validate__" =
      "RequireNullValue" :: hookChain tbl (pre ++ ["MafColumnRecord"]) "__validate__" ∧
    (∀ hook, hook ≠ "__validate__" →
      hookChain tbl' m hook = hookChain tbl (pre ++ ["MafColumnRecord"]) hook) ∧
    firstConst tbl' m (·.nullDict) = firstConst tbl (pre ++ ["MafColumnRecord"]) (·.nullDict) := by
  intro tbl' m
  have hRm : "RequireNullValue" ∉ pre ++ ["MafColumnRecord"] := by
    intro h; rcases List.mem_append.1 h with h | h
    · exact hR h
    · simp at h
  refine ⟨mroOf_extend_mask hfresh hx hb hnd hRm, ?_, fun hook hne => ?_, ?_⟩
  · exact (hookChain_mix _ _ _ _ hfresh hfind _ _).trans (by rw [hhooks]; rfl)
  · have : (["__validate__"].contains hook) = false := by
      simp only [List.contains_cons, List.contains_nil, Bool.or_false, beq_eq_false_iff_ne]
      exact hne
    exact (hookChain_mix _ _ _ _ hfresh hfind _ _).trans (by rw [hhooks, this]; rfl)
  · exact (firstConst_mix _ _ _ _ hfresh hfind _ _ rfl).trans (by rw [hnull]; rfl)

theorem resolveElem_extend {tbl : ClassTable} (e : ClassEntry) (he : e.hooks = [])
    (h1 : e.enumCls = none) (h2 : e.minV = none) (h3 : e.maxV = none) {ec : String}
    (hm : (mroOf tbl ec).isSome = true) : resolveElem (tbl ++ [e]) ec = resolveElem tbl ec := by
  unfold resolveElem
  cases hmro : mroOf tbl ec with
  | none => rw [hmro] at hm; cases hm
  | some em =>
    rw [mroOf_append [e] hmro]
    simp only [Option.map_some, hookChain_extend _ _ he, firstConst_extend _ _ _ h1,
      firstConst_extend _ _ _ h2, firstConst_extend _ _ _ h3]

/-- **C14.4, as a `ColSpec`** — everything method resolution decides about the
    synthesised masking class is what it decides about the base class `b`, except
    that `RequireNullValue.__validate__` is put in front of the inherited
    `__validate__` chain. -/
theorem override_resolveSpec {tbl : ClassTable} {uid b nm : String} {pre : List String}
    (hfresh : uid ∉ tbl.map (·.name))
    (hx : mroOf tbl "RequireNullValue" = some ["RequireNullValue", "MafColumnRecord"])
    (hb : mroOf tbl b = some (pre ++ ["MafColumnRecord"]))
    (hnd : (pre ++ ["MafColumnRecord"]).Nodup) (hR : "RequireNullValue" ∉ pre)
    (hfind : tbl.find "RequireNullValue" =
      some { name := "RequireNullValue", bases := ["MafColumnRecord"], hooks := ["__validate__"] })
    (helem : ∀ ec, firstConst tbl (pre ++ ["MafColumnRecord"]) (·.elemCls) = some ec →
      (mroOf tbl ec).isSome = true) :
    resolveSpec (tbl ++ [extendClass [1, 0] uid b "RequireNullValue" nm]) uid =
      (resolveSpec tbl b).map (fun sp =>
        { sp with cls := uid, mro := uid :: "RequireNullValue" :: sp.mro,
                  validateChain := "RequireNullValue" :: sp.validateChain }) := by
  obtain ⟨hm, hval, hother, _⟩ := override_semantics (nm := nm) hfresh hx hb hnd hR hfind rfl rfl
  have hconst : ∀ {α} (f : ClassEntry → Option α),
      f (extendClass [1, 0] uid b "RequireNullValue" nm) = none →
      f { name := "RequireNullValue", bases := ["MafColumnRecord"], hooks := ["__validate__"] } = none →
      firstConst (tbl ++ [extendClass [1, 0] uid b "RequireNullValue" nm])
        (uid :: "RequireNullValue" :: (pre ++ ["MafColumnRecord"])) f =
      firstConst tbl (pre ++ ["MafColumnRecord"]) f :=
    fun f h1 h2 => (firstConst_mix _ _ _ _ hfresh hfind _ f h1).trans (by rw [h2]; rfl)
  unfold resolveSpec
  rw [hm, hb]
  simp only [Option.map_some, Option.some.injEq]
  rw [hval, hother "build" (by decide), hother "validate" (by decide), hother "__build__" (by decide),
    hother "__string_it__" (by decide), hconst (·.nullDict) rfl rfl, hconst (·.enumCls) rfl rfl,
    hconst (·.minV) rfl rfl, hconst (·.maxV) rfl rfl, hconst (·.elemCls) rfl rfl]
  congr 1
  cases hec : firstConst tbl (pre ++ ["MafColumnRecord"]) (·.elemCls) with
  | none => simp only [Option.bind_none]  -- not `rfl`: the kernel would first compare the two `resolveElem`
  | some ec =>
    simp only [Option.bind_some]
    exact resolveElem_extend _ rfl rfl rfl rfl (helem ec hec)

/-! ## 5. the loop alone does not reject duplicate annotations -/

def dupA : SchemeDef := { version := "v", annotation := "a", base := none, filtered := none, columns := [("x", "T")] }
def dupB : SchemeDef := { version := "v", annotation := "a", base := none, filtered := none, columns := [("y", "T")] }

/-- **C14.5** — the loop accepts two definitions with the same annotation; the later one
    silently overwrites the earlier, so the layout of that annotation depends on the
    load order.  This is why `DefsOK` (distinct annotations) is a hypothesis of 1–3, and why
    `build_schemes` rejects such data before the loop (`C14Top.duplicate_annotation_rejected`). -/
theorem duplicate_annotation_order_dependent :
    ∃ ds ds' : List SchemeDef, ds.Perm ds' ∧ ¬ DefsOK ds ∧
      ∀ st : BuildState, ∃ r r', buildSchemes st ds = .ok r ∧ buildSchemes st ds' = .ok r' ∧
        (dictGet r.2 "a").map (·.names) = some ["y"] ∧ (dictGet r'.2 "a").map (·.names) = some ["x"] ∧
        (dictGet r.2 "a").map (·.names) ≠ (dictGet r'.2 "a").map (·.names) :=
  ⟨[dupA, dupB], [dupB, dupA], List.Perm.swap _ _ _, by decide, fun st =>
    ⟨(st, [("a", { version := "v", annotation := "a", cols := [("y", "T")] })]),
     (st, [("a", { version := "v", annotation := "a", cols := [("x", "T")] })]),
     rfl, rfl, rfl, rfl, by simp [dictGet, Scheme.names]⟩⟩


/-! ## 6. `find_scheme_class` finds *the* scheme, whatever the order -/

theorem validate_iff (all : List Scheme) :
    validateSchemes all = true ↔ (all.map (fun s => (s.version, s.annotation))).Nodup := by
  induction all with
  | nil => simp [validateSchemes]
  | cons s rest ih =>
    rw [validateSchemes, List.map_cons, List.nodup_cons, Bool.and_eq_true, ih, List.all_eq_true]
    apply and_congr_left'
    simp only [List.mem_map, Prod.mk.injEq, not_exists, not_and, Bool.not_eq_eq_eq_not, Bool.not_true,
      Bool.and_eq_false_imp, beq_iff_eq, beq_eq_false_iff_ne]

theorem pair_unique {all : List Scheme} (hv : validateSchemes all = true) {s s' : Scheme}
    (hs : s ∈ all) (hs' : s' ∈ all) (h1 : s.version = s'.version) (h2 : s.annotation = s'.annotation) :
    s = s' :=
  inj_of_nodup_map _ ((validate_iff all).1 hv) s hs s' hs' (by rw [h1, h2])

/-- an argument of `find_scheme_class` that is given, and one that is not -/
theorem filter_given {s : String} (h : s ≠ "") : (some s).filter (fun s => !s.isEmpty) = some s := by
  simp [Option.filter, h]

theorem filter_absent {a : Option String} (h : a = none ∨ a = some "") :
    a.filter (fun s => !s.isEmpty) = none := by
  rcases h with rfl | rfl
  · rfl
  · decide

/-- both given: the unique scheme with that `(version, annotation)` pair -/
theorem find_both {all : List Scheme} (hv : validateSchemes all = true) {s : Scheme} (hs : s ∈ all)
    (hne1 : s.version ≠ "") (hne2 : s.annotation ≠ "") :
    findSchemeClass all (some s.version) (some s.annotation) = .ok (some s) := by
  simp only [findSchemeClass, filter_given hne1, filter_given hne2]
  congr 1
  apply find?_of_unique hs (by simp)
  intro r hr hp
  simp only [Bool.and_eq_true, beq_iff_eq] at hp
  exact pair_unique hv hr hs hp.1 hp.2

/-- version only: the unique *basic* scheme (annotation = version) -/
theorem find_basic {all : List Scheme} (hv : validateSchemes all = true) {s : Scheme} (hs : s ∈ all)
    (hne : s.version ≠ "") (hbasic : s.annotation = s.version) (a : Option String)
    (ha : a = none ∨ a = some "") :
    findSchemeClass all (some s.version) a = .ok (some s) := by
  simp only [findSchemeClass, filter_given hne, filter_absent ha]
  congr 1
  apply find?_of_unique hs (by simp [hbasic])
  intro r hr hp
  simp only [Bool.and_eq_true, beq_iff_eq] at hp
  exact pair_unique hv hr hs hp.1 (hp.2.trans hbasic.symm)

/-- annotation only: needs distinct annotations -/
theorem find_annotation {all : List Scheme} (hnd : (all.map (·.annotation)).Nodup) {s : Scheme}
    (hs : s ∈ all) (hne : s.annotation ≠ "") (v : Option String) (hv : v = none ∨ v = some "") :
    findSchemeClass all v (some s.annotation) = .ok (some s) := by
  simp only [findSchemeClass, filter_given hne, filter_absent hv]
  exact congrArg _ (find?_key (·.annotation) hnd hs)

/-- **C14.6** — with pairwise distinct `(version, annotation)` pairs the answer of
    `find_scheme_class` does not depend on the order of the list of schemes; for the
    annotation-only form this needs distinct annotations. -/
theorem find_unique {all all' : List Scheme} (hp : all.Perm all') (hv : validateSchemes all = true)
    (v a : Option String)
    (hann : v.filter (fun s => !s.isEmpty) = none → (all.map (·.annotation)).Nodup) :
    findSchemeClass all v a = findSchemeClass all' v a := by
  have hpair : ∀ x y : String, ∀ s ∈ all, ∀ r ∈ all,
      (s.version == x && s.annotation == y) = true → (r.version == x && r.annotation == y) = true → s = r := by
    intro x y s hs r hr h1 h2
    simp only [Bool.and_eq_true, beq_iff_eq] at h1 h2
    exact pair_unique hv hs hr (h1.1.trans h2.1.symm) (h1.2.trans h2.2.symm)
  unfold findSchemeClass
  cases hvf : v.filter (fun s => !s.isEmpty) <;> cases haf : a.filter (fun s => !s.isEmpty)
  · rfl
  · exact congrArg _ (find?_perm_of_unique hp fun s hs r hr h1 h2 =>
      inj_of_nodup_map (·.annotation) (hann hvf) s hs r hr ((eq_of_beq h1).trans (eq_of_beq h2).symm))
  · exact congrArg _ (find?_perm_of_unique hp (hpair _ _))
  · exact congrArg _ (find?_perm_of_unique hp (hpair _ _))

/-! ## non-vacuity: a three-definition chain, two load orders -/
namespace Ex

def tbl0 : ClassTable := [
  { name := "MafColumnRecord", bases := [], hooks := ["build", "validate", "__nullable_dict__"] },
  { name := "MafCustomColumnRecord", bases := ["MafColumnRecord"], hooks := ["__build__", "__validate__"] },
  { name := "StringColumn", bases := ["MafCustomColumnRecord"], hooks := ["__build__", "__validate__"] },
  { name := "RequireNullValue", bases := ["MafColumnRecord"], hooks := ["__validate__"] }]

def st0 : BuildState := { tbl := tbl0, order := [1, 0] }

def root : SchemeDef :=
  { version := "v1", annotation := "v1", base := none, filtered := none,
    columns := [("c1", "StringColumn"), ("c2", "StringColumn")] }
def child : SchemeDef :=
  { version := "v1", annotation := "v1-x", base := some "v1", filtered := none,
    columns := [("c2", "RequireNullValue"), ("c3", "StringColumn")] }
def grand : SchemeDef :=
  { version := "v1", annotation := "v1-x-pub", base := some "v1-x", filtered := some ["c1"],
    columns := [] }

def order1 : List SchemeDef := [grand, child, root]
def order2 : List SchemeDef := [root, grand, child]

example : order1.Perm order2 := by decide
example : DefsOK order1 := by decide
example : FiltersOK order1 := by decide
example : ∀ d ∈ order1, grounded order1 d.annotation := by decide
example : ∃ r, buildSchemes st0 order1 = .ok r :=
  (build_ok_iff (ds := order1) (by decide) (by decide) st0).2 (by decide)

def summary (r : Except PyErr (BuildState × List (String × Scheme))) :=
  r.toOption.map (fun r => r.2.map (fun p => (p.1, p.2.version, p.2.names)))

example : summary (buildSchemes st0 order1) =
    some [("v1", "v1", ["c1", "c2"]), ("v1-x", "v1", ["c1", "c2", "c3"]), ("v1-x-pub", "v1", ["c2", "c3"])] := by
  decide +kernel
example : summary (buildSchemes st0 order2) =
    some [("v1", "v1", ["c1", "c2"]), ("v1-x", "v1", ["c1", "c2", "c3"]), ("v1-x-pub", "v1", ["c2", "c3"])] := by
  decide +kernel


/-- the class-level hypotheses hold of both runs -/
example : (match buildSchemes st0 order1 with
    | .ok r => decide (ClassHyps order1 st0 r.1)
    | .error _ => false) = true := by decide +kernel
example : (match buildSchemes st0 order2 with
    | .ok r => decide (ClassHyps order2 st0 r.1)
    | .error _ => false) = true := by decide +kernel

/-- the redefined column `c2` keeps its base position and reads back as
    `RequireNullValue` mixed over the inherited `StringColumn`, in both load orders -/
example : (buildSchemes st0 order1).toOption.bind (fun r => (dictGet r.2 "v1-x-pub").map (readLayout r.1.tbl)) =
    some [("c2", some (.mixed "RequireNullValue" (.named "StringColumn"))),
          ("c3", some (.named "StringColumn"))] := by decide +kernel
example : (buildSchemes st0 order2).toOption.bind (fun r => (dictGet r.2 "v1-x-pub").map (readLayout r.1.tbl)) =
    some [("c2", some (.mixed "RequireNullValue" (.named "StringColumn"))),
          ("c3", some (.named "StringColumn"))] := by decide +kernel
example : Spec.layoutOf order1 "v1-x-pub" =
    some [("c2", .mixed "RequireNullValue" (.named "StringColumn")), ("c3", .named "StringColumn")] := by decide

/-- unknown base, inheritance cycle, missing filtered column: `ValueError` -/
example : ¬ grounded [child] child.annotation := by decide
example : buildSchemes st0 [child] = .error .value :=
  ungrounded_rejected (ds := [child]) (by decide) st0 (d := child) (by decide) (by decide)
def cycA : SchemeDef := { version := "v", annotation := "a", base := some "b", filtered := none, columns := [] }
def cycB : SchemeDef := { version := "v", annotation := "b", base := some "a", filtered := none, columns := [] }
example : DefsOK [cycA, cycB] ∧ ¬ grounded [cycA, cycB] "a" := by decide
example : buildSchemes st0 [cycA, cycB] = .error .value :=
  ungrounded_rejected (ds := [cycA, cycB]) (by decide) st0 (d := cycA) (by decide) (by decide)
def badFilter : SchemeDef :=
  { version := "v1", annotation := "v1-bad", base := some "v1", filtered := some ["nope"], columns := [] }
example : DefsOK [root, badFilter] ∧ (∀ d ∈ [root, badFilter], grounded [root, badFilter] d.annotation) ∧
    ¬ FiltersOK [root, badFilter] := by decide
example : buildSchemes st0 [root, badFilter] = .error .value :=
  missing_filter_rejected (ds := [root, badFilter]) (by decide) st0 (d := badFilter) (by decide)
    (b := "v1") (bl := [("c1", .named "StringColumn"), ("c2", .named "StringColumn")])
    (f := ["nope"]) (n := "nope") (by decide) (by decide) rfl (by decide) (by decide) (by decide)

/-- the hypotheses of `override_semantics` hold for the synthesised class of `c2` -/
example :
    "(RequireNullValue+StringColumn)@v1-x#c2#0" ∉ tbl0.map (·.name) ∧
    mroOf tbl0 "RequireNullValue" = some ["RequireNullValue", "MafColumnRecord"] ∧
    mroOf tbl0 "StringColumn" = some (["StringColumn", "MafCustomColumnRecord"] ++ ["MafColumnRecord"]) ∧
    (["StringColumn", "MafCustomColumnRecord"] ++ ["MafColumnRecord"]).Nodup ∧
    "RequireNullValue" ∉ ["StringColumn", "MafCustomColumnRecord"] ∧
    tbl0.find "RequireNullValue" =
      some { name := "RequireNullValue", bases := ["MafColumnRecord"], hooks := ["__validate__"] } := by
  decide +kernel

/-- and its conclusion, computed: both `__validate__` hooks run, `RequireNullValue` first -/
example : (buildSchemes st0 order1).toOption.bind (fun r =>
      (mroOf r.1.tbl "(RequireNullValue+StringColumn)@v1-x#c2#0").map (fun m =>
        (m, hookChain r.1.tbl m "__validate__", hookChain r.1.tbl m "__build__"))) =
    some (["(RequireNullValue+StringColumn)@v1-x#c2#0", "RequireNullValue", "StringColumn",
            "MafCustomColumnRecord", "MafColumnRecord"],
          ["RequireNullValue", "StringColumn", "MafCustomColumnRecord"],
          ["StringColumn", "MafCustomColumnRecord"]) := by decide +kernel

def sA : Scheme := { version := "v1", annotation := "v1", cols := [] }
def sB : Scheme := { version := "v1", annotation := "v1-x", cols := [] }
def sC : Scheme := { version := "v2", annotation := "v2", cols := [] }
example : validateSchemes [sA, sB, sC] = true ∧ ([sA, sB, sC].map (·.annotation)).Nodup ∧
    [sA, sB, sC].Perm [sC, sB, sA] := by decide
example : findSchemeClass [sC, sB, sA] (some "v1") none = .ok (some sA) :=
  find_basic (all := [sC, sB, sA]) (by decide) (s := sA) (by decide) (by decide) rfl none (.inl rfl)
example : findSchemeClass [sC, sB, sA] none (some "v1-x") = .ok (some sB) :=
  find_annotation (all := [sC, sB, sA]) (by decide) (s := sB) (by decide) (by decide) none (.inl rfl)
example : findSchemeClass [sA, sB, sC] (some "v1") (some "v1-x") = .ok (some sB) :=
  find_both (all := [sA, sB, sC]) (by decide) (s := sB) (by decide) (by decide) (by decide)
example (v a : Option String) : findSchemeClass [sA, sB, sC] v a = findSchemeClass [sC, sB, sA] v a :=
  find_unique (by decide) (by decide) v a (fun _ => by decide)

end Ex
end C14
