/-
  C06 — A Strict writer only ever emits lines that a Strict reader accepts.

  Operational model: `Model.Writer.write` (`writer += record`), which validates the record
  with `Model.Record.validate` (Strict, against the writer's scheme) and then either emits
  `str(record) + "\n"` or — when a sorter is configured — queues the record; `Model.Writer.close`,
  which passes every queued record through the sorter's Strict codec and emits what comes out.

  Direct path: a refused record leaves the writer untouched (`refused_no_bytes`; which exceptions
  and why: `refused_error_kinds`, `refused_only_format`, `unkeyable_refused`,
  `bad_position_refused`: a position text that is not a number is a `KeyError` from the sorter's
  key function, like a missing column).  The line of an accepted record (`emitted_line`) is
  accepted by `MafRecord.from_line` in Strict mode (`emitted_line_accepted`): for columns of any
  subclass of the scheme's classes (the twin check of `Column.schemeErrors`), for schemes whose
  classes are column types of the development or the unrestricted `MafColumnRecord`
  (`NoRestrictionsScheme`); built on `valid_value_renders_accepted` (every column type of the
  development, arbitrary valid values under `ValueWF`).  A column of a nullable subclass holding
  `None` in a non-nullable slot is refused by the twin check: `nullable_subclass_refused`.

  Sorting path: every line `close` emits went through the sorter's Strict codec (`close_emits`)
  and is accepted by a Strict reader (`close_lines_accepted`, schemes of column types of the
  development); `sorted_writer_lines_accepted`: the same for a writer fed by any sequence of `+=`
  from an empty queue.

  Helper lemmas: `Lemmas/WriterLemmas.lean`, `Lemmas/FromLineAccept.lean`,
  `Lemmas/CloseLemmas.lean`, `Lemmas/RenderValid.lean`.
-/
import MafModel.Lemmas.WriterLemmas
import MafModel.Lemmas.CloseLemmas
import MafModel.Props.C01Record
open Model Py Spec

namespace C06

/-- "column `c` is valid for position `i` of scheme `S`": `ColValidAt` of `Lemmas/WriterLemmas.lean`
    without its twin clause; the class of `c` may be any subclass of the `i`-th class of `S` -/
def ValidAt (C : Ctx) (S : Scheme) (i : Nat) (c : Column) : Prop :=
  (∃ n cls, S.cols[i]? = some (n, cls) ∧ S.names[i]? = some n ∧ c.key = n.toList ∧
      isSubclass C c.cls cls = true)
  ∧ c.index = some (i : Int)
  ∧ c.valueInvalid C = false
  ∧ ∀ t, c.render C = .ok t → hasFieldSep t = false

theorem validAt_of (C : Ctx) (S : Scheme) (i : Nat) (c : Column) (h : ColValidAt C S i c) :
    ValidAt C S i c := by
  obtain ⟨n, cls, hp, hk, hsub⟩ := h.pos
  exact ⟨⟨n, cls, hp, by simp [Scheme.names, List.getElem?_map, hp], hk, hsub⟩,
    h.index, h.valid, h.framed⟩

/-! ### 1. the shape of a record that passes Strict validation -/

/-- **C06.1**  If `record.validate(Strict, reset_errors=True, scheme=S)` returns (does not
    raise) for a truthy scheme `S`, then no error was collected and nothing logged; the
    record has exactly `len(S)` slots, its two indexes are in sync, and every slot `i` holds a
    column valid for position `i`.  (Distinctness of the scheme's names is not needed.) -/
theorem validate_ok_shape (C : Ctx) (r : Record) (S : Scheme) (hS : S.truthy = true)
    (logs : List LogRec)
    (h : (r.validate C (some .strict) true (some S)).2 = .ok logs) :
    (r.validate C (some .strict) true (some S)).1.errors = [] ∧ logs = [] ∧
    r.slots.length = S.size ∧ r.syncErrors = [] ∧
    ∀ i, i < S.size → ∃ c, r.slots[i]? = some (some c) ∧ ValidAt C S i c.col := by
  obtain ⟨h1, h2, h3, h4, h5⟩ := Record.validate_strict_ok hS h
  refine ⟨h1, h2, h3, h4, fun i hi => ?_⟩
  obtain ⟨c, hc, hv⟩ := h5 i hi
  exact ⟨c, hc, validAt_of C S i c.col hv⟩

/-- in Strict mode `validate` raises nothing but the `MafFormatException` of a collected error -/
theorem validate_error_is_format (C : Ctx) (r : Record) (scheme : Option Scheme) (e : PyErr)
    (h : (r.validate C (some .strict) true scheme).2 = .error e) :
    ∃ x ∈ (r.validate C (some .strict) true scheme).1.errors, e = .format x.tpe x.line :=
  processErrors_strict_error h

/-! ### 2. a refused record contributes no bytes -/

/-- **C06.2**  A Strict writer whose scheme is set: whenever `writer += record` raises, the
    writer is exactly as before — in particular no `write` call was made and nothing was
    queued, with or without sorting. -/
theorem refused_no_bytes (C : Ctx) (K : HConsts) (w : Writer) (r : Record) (S : Scheme) (e : PyErr)
    (hs : w.scheme = some S) (hS : S.truthy = true) (hm : w.mode = .strict)
    (h : (w.write C K r).2 = .error e) :
    (w.write C K r).1 = w ∧ (w.write C K r).1.out = w.out ∧ (w.write C K r).1.queued = w.queued := by
  rcases Writer.write_cases C K r hs hS hm with
    ⟨_, hw, _⟩ | ⟨_, _, _, ⟨_, hw⟩ | ⟨_, _, hw⟩⟩ <;> rw [hw] at h ⊢
  · exact ⟨rfl, rfl, rfl⟩
  · cases h
  · cases h

/-- **C06.2, which exceptions and when.**  The exception is
    * the `MafFormatException` of a validation error collected for the record, or
    * — the record validated — when sorting: the exception of the sorter's key function on
      the record, which is a `KeyError` (a coordinate column is missing or a position is a text
      that is not a number) or a `ValueError` (chromosome not in the contig list,
      `refused_valueError_contigs`), or
    * — the record validated — the failure of `str(record)`. -/
theorem refused_error_kinds (C : Ctx) (K : HConsts) (w : Writer) (r : Record) (S : Scheme) (e : PyErr)
    (hs : w.scheme = some S) (hS : S.truthy = true) (hm : w.mode = .strict)
    (h : (w.write C K r).2 = .error e) :
    (∃ x ∈ (r.validate C (some .strict) true (some S)).1.errors, e = .format x.tpe x.line) ∨
    ((r.validate C (some .strict) true (some S)).2 = .ok [] ∧
      ((w.sorting = true ∧ w.keyOf K r = .error e ∧ (e = .key ∨ e = .value)) ∨
       r.render C = .error e)) := by
  rcases Writer.write_cases C K r hs hS hm with
    ⟨e', hw, hcause⟩ | ⟨_, _, _, ⟨_, hw⟩ | ⟨_, _, hw⟩⟩ <;> rw [hw] at h <;> cases h
  rcases hcause with h1 | ⟨h1, h2 | h2⟩
  · exact .inl (processErrors_strict_error h1)
  · exact .inr ⟨h1, .inl ⟨h2.1, h2.2, Writer.keyOf_error_kinds h2.2⟩⟩
  · exact .inr ⟨h1, .inr h2.2⟩

/-- a record lacking one of `Chromosome` / `Start_Position` / `End_Position` cannot be keyed
    (`KeyError`, or `ValueError` when its chromosome is not in the contig list): a sorting
    Strict writer refuses it even if it validates, and is left untouched -/
theorem unkeyable_refused (C : Ctx) (K : HConsts) (w : Writer) (r : Record) (S : Scheme)
    (hs : w.scheme = some S) (hS : S.truthy = true) (hm : w.mode = .strict)
    (hsort : w.sorting = true) (hc : r.toLoc.hasCoords = false) :
    ∃ e, (w.write C K r).2 = .error e ∧ (w.write C K r).1 = w := by
  obtain ⟨ek, hk⟩ : ∃ e, w.keyOf K r = .error e :=
    (Writer.keyOf_no_coords hc).elim (fun h => ⟨_, h⟩) (fun h => ⟨_, h.1⟩)
  rcases Writer.write_cases C K r hs hS hm with
    ⟨e, hw, _⟩ | ⟨_, _, _, ⟨hsort', _⟩ | ⟨_, ⟨k, hk'⟩, _⟩⟩
  · exact ⟨e, by rw [hw], by rw [hw]⟩
  · rw [hsort] at hsort'; cases hsort'
  · rw [hk] at hk'; cases hk'

/-- a record that HAS its coordinate columns, with a chromosome the sorter can key, but whose
    `Start_Position` or `End_Position` is a text that is not a number, cannot be keyed either:
    a sorting Strict writer refuses it — once it validates — with `KeyError` (not `ValueError`),
    and is left untouched -/
theorem bad_position_refused (C : Ctx) (K : HConsts) (w : Writer) (r : Record) (S : Scheme)
    (hs : w.scheme = some S) (hS : S.truthy = true) (hm : w.mode = .strict)
    (hsort : w.sorting = true) {lg : List LogRec}
    (hval : (r.validate C (some .strict) true (some S)).2 = .ok lg)
    (h0 : r.toLoc.hasCoords = true) (hc : r.toLoc.chrOk (w.header.sortOrder K).2)
    (hp : r.toLoc.start.posOk = false ∨ r.toLoc.stop.posOk = false) :
    w.write C K r = (w, .error .key) :=
  Writer.write_of_unkeyable hs hS hm hsort hval (Writer.keyOf_bad_position h0 hc hp)

/-- the `ValueError` a sorting writer can raise from the key function is the missing-contig error
    (the header gives a contig list without the record's chromosome) — never a bad position -/
theorem refused_valueError_contigs (K : HConsts) (w : Writer) (r : Record)
    (h : w.keyOf K r = .error .value) :
    (w.header.sortOrder K).2 ≠ [] ∧
    (r.toLoc.hasCoords = true →
      ∀ s, r.toLoc.chrName = some s → s ∉ (w.header.sortOrder K).2) :=
  Writer.keyOf_valueError h

/-- **C06.2, the `MafFormatException` case.**  When the record's columns are of column types
    of the development and carry well-formed values, `str(record)` of a validated record does
    not fail; so for a direct writer, or a sorting one on a record that can be keyed, the only
    exception is `MafFormatException`. -/
theorem refused_only_format (C : Ctx) (K : HConsts) (w : Writer) (r : Record) (S : Scheme) (e : PyErr)
    (hs : w.scheme = some S) (hS : S.truthy = true) (hm : w.mode = .strict)
    (hE : Render.EnumsOK C.enums)
    (htyped : ∀ c, some c ∈ r.slots → ClassTyped C c.col.cls)
    (hwf : ∀ c, some c ∈ r.slots → RenderValid.ValueWF C c.col.value)
    (hkey : w.sorting = false ∨ ∃ k, w.keyOf K r = .ok k)
    (h : (w.write C K r).2 = .error e) :
    ∃ tpe line, e = .format tpe line := by
  rcases refused_error_kinds C K w r S e hs hS hm h with ⟨x, _, hx⟩ | ⟨hok, h2 | h2⟩
  · exact ⟨_, _, hx⟩
  · rcases hkey with hk | ⟨k, hk⟩
    · rw [hk] at h2; cases h2.1
    · rw [hk] at h2; cases h2.2.1
  · obtain ⟨t, ht⟩ := Record.render_ok_of_validated hS hE htyped hwf hok
    rw [ht] at h2; cases h2

/-! ### 3. the emitted line -/

/-- **C06.3**  A direct (non-sorting) Strict writer with truthy scheme `S`: an accepted record
    adds exactly one `write` call, `line + "\n"`, where `line` is the TAB-join of `len(S)`
    fields and field `i` is the rendering of the column in slot `i`, which is valid for
    position `i` and free of TAB / CR / LF.  Nothing else of the writer changes. -/
theorem emitted_line (C : Ctx) (K : HConsts) (w w' : Writer) (r : Record) (S : Scheme)
    (hs : w.scheme = some S) (hS : S.truthy = true) (hm : w.mode = .strict)
    (hsort : w.sorting = false) (h : w.write C K r = (w', .ok ())) :
    ∃ fields : List Text,
      w'.out = w.out ++ [joinWith '\t' fields ++ ['\n']] ∧
      w' = { w with out := w.out ++ [joinWith '\t' fields ++ ['\n']] } ∧
      fields.length = S.size ∧
      ∀ i, i < S.size → ∃ c f, r.slots[i]? = some (some c) ∧ fields[i]? = some f ∧
        ValidAt C S i c.col ∧ c.col.render C = .ok f ∧
        (∀ ch ∈ f, ch ≠ '\t' ∧ ch ≠ '\n' ∧ ch ≠ '\r') := by
  obtain ⟨t, hv, ht, hw'⟩ := (Writer.write_direct_strict hs hS hm hsort).1 h
  obtain ⟨fields, rfl, hlen, hclean, hcols⟩ := Record.render_of_validated hS hv ht
  refine ⟨fields, by rw [hw'], hw', hlen, fun i hi => ?_⟩
  obtain ⟨c, f, hc, hf, hv, hr⟩ := hcols i hi
  exact ⟨c, f, hc, hf, validAt_of C S i c.col hv, hr,
    hasFieldSep_eq_false.1 (hclean f (List.mem_of_getElem? hf))⟩

theorem queued_not_written (C : Ctx) (K : HConsts) (w w' : Writer) (r : Record) (S : Scheme)
    (hs : w.scheme = some S) (hS : S.truthy = true) (hm : w.mode = .strict)
    (hsort : w.sorting = true) (h : w.write C K r = (w', .ok ())) :
    w'.out = w.out ∧ w'.queued.length = w.queued.length + 1 := by
  rcases Writer.write_cases C K r hs hS hm with
    ⟨_, hw, _⟩ | ⟨_, _, _, ⟨hsort', _⟩ | ⟨_, _, hw⟩⟩
  · rw [hw] at h; cases h
  · rw [hsort] at hsort'; cases hsort'
  · rw [hw] at h
    cases h
    exact ⟨rfl, by simp⟩

/-! ### 4. the emitted line is accepted by a Strict reader -/

/-- well-formedness of a value as a Python object (`RenderValid.ValueWF`): every `float` is
    a `repr` the float host reads back as itself, every enum member exists in the table of
    its class, every UUID is below `2^128` (scalars, or all elements of a list / tuple) -/
abbrev ValueWF := RenderValid.ValueWF

/-- **a value that validates renders to a text in the column's domain** — every column type
    of the development (the 40 named types and the `RequireNullValue` redefinitions), for
    arbitrary values.  The known exceptions to *value* round-tripping (`""` in a
    `NullableStringColumn`, `[Null]` in a list of yes/no) are still *accepted*. -/
theorem valid_value_renders_accepted (C : Ctx) (hE : Render.EnumsOK C.enums) (ty : ColType)
    (sp : ColSpec) (h : Builtin.expectedOf ty = some sp) (v : PyVal)
    (hv : sp.valueInvalid v = false) (hwf : ValueWF C v) :
    ∃ t, sp.render C.enums v = .ok t ∧ (sp.accept C false t).isSome = true
      ∧ inDomain ⟨C.enums, C.H⟩ ty t = true := by
  obtain ⟨t, hr, ha⟩ := RenderValid.valid_render_accepted C hE ty sp h v hv hwf
  exact ⟨t, hr, ha, by rw [inDomain, ← Builtin.field_accept C ty sp t h]; exact ha⟩

/-- the hypotheses on the scheme: those of the record-level theorems of C01 (distinct names,
    at least one column, every class resolves and inherits `MafCustomColumnRecord.build`)
    and every class is (resolves to the record of) a column type of the development -/
structure SchemeHyp (C : Ctx) (S : Scheme) : Prop where
  ok : SchemeOK C S
  typed : ∀ p ∈ S.cols, ClassTyped C p.2

/-- `MafColumnRecord`, if the class table has it, is the plain base class: it does not
    inherit the custom `build` (this is `Model.PlainBase` of `Lemmas/ReaderLemmas.lean`, which
    cannot be imported together with the `from_line` lemmas used here, see the note in
    `Lemmas/RoundTrip.lean`; it holds for the generated class table, `baseIsPlain_demo`) -/
def BaseIsPlain (C : Ctx) : Prop :=
  ∀ sp, resolveSpec C.tbl "MafColumnRecord" = some sp → sp.buildMethod = some "MafColumnRecord"

/-- the hypotheses on the scheme, general form: distinct names, at least one column, every
    class resolves and is a subclass of itself, and every class is either a column type of the
    development (inheriting `MafCustomColumnRecord.build`) or the unrestricted base class
    `MafColumnRecord` (inheriting neither the custom `build` nor the custom `validate`) — as in
    `NoRestrictionsScheme`.  Mixtures are allowed. -/
structure SchemeHypGen (C : Ctx) (S : Scheme) : Prop where
  ok : SchemeOKGen C S
  typed : ∀ p ∈ S.cols, p.2 ≠ "MafColumnRecord" → ClassTyped C p.2

/-- `SchemeHyp` is the special case without `MafColumnRecord` columns -/
theorem SchemeHyp.gen {C : Ctx} {S : Scheme} (h : SchemeHyp C S) (hb : BaseIsPlain C) :
    SchemeHypGen C S where
  ok := by
    refine h.ok.gen ?_
    intro p hp heq
    obtain ⟨sp, hsp, hbm, _⟩ := h.ok.cls_ok p hp
    rw [heq] at hsp
    have := hb sp hsp
    rw [hbm] at this
    exact absurd this (by decide)
  typed := fun p hp _ => h.typed p hp

/-- a decidable check of `SchemeHypGen.ok` (for concrete schemes: `decide +kernel`) -/
def hypGenCheck (C : Ctx) (S : Scheme) : Bool :=
  decide (S.names.Nodup) && decide (S.size > 0) &&
    S.cols.all (fun p => match resolveSpec C.tbl p.2 with
      | some sp => isSubclass C p.2 p.2 &&
          ((p.2 != "MafColumnRecord" && sp.buildMethod == some "MafCustomColumnRecord") ||
           (p.2 == "MafColumnRecord" && sp.buildMethod == some "MafColumnRecord" &&
              sp.validateMethod != some "MafCustomColumnRecord"))
      | none => false)

theorem schemeOKGen_of_check (C : Ctx) (S : Scheme) (h : hypGenCheck C S = true) :
    SchemeOKGen C S := by
  simp only [hypGenCheck, Bool.and_eq_true, decide_eq_true_eq, List.all_eq_true] at h
  obtain ⟨⟨h1, h2⟩, h3⟩ := h
  refine ⟨h1, h2, ?_⟩
  intro p hp
  have := h3 p hp
  cases hr : resolveSpec C.tbl p.2 with
  | none => simp [hr] at this
  | some sp =>
    simp only [hr, Bool.and_eq_true, Bool.or_eq_true, beq_iff_eq, bne_iff_ne, ne_eq] at this
    refine ⟨sp, rfl, this.1, ?_⟩
    rcases this.2 with h | h
    · exact Or.inl h
    · exact Or.inr ⟨h.1.1, h.1.2, h.2⟩

/-- a decidable check of `SchemeHyp.typed` for schemes whose classes are named column types -/
theorem typed_of_check {C : Ctx} {S : Scheme}
    (h : S.cols.all (fun p => decide
      ((resolveSpec C.tbl p.2).map ColSpec.erase = Builtin.expectedOf (.named p.2))) = true) :
    ∀ p ∈ S.cols, ClassTyped C p.2 :=
  fun p hp => ⟨.named p.2, of_decide_eq_true (List.all_eq_true.1 h p hp)⟩

/-- **C06.4 — the emitted line is accepted by a Strict reader.**  The line a direct Strict
    writer emits — with or without its line terminator — is accepted by `MafRecord.from_line`
    in Strict mode against the same scheme: it returns a record without any error and logs
    nothing.  The columns of the record may be of ANY subclass of the scheme's classes (that
    is what `validate` checks, together with the twin condition: a column of a proper subclass
    must also be valid, with the same text, as an instance of the scheme's class); nothing is
    assumed about their classes beyond what validation established.  Hypotheses: the scheme
    (`SchemeHypGen`), the enum tables (`EnumsOK`), well-formed values (`ValueWF`). -/
theorem emitted_line_accepted (C : Ctx) (K : HConsts) (w w' : Writer) (r : Record)
    (S : Scheme) (lineNo : Option Nat)
    (hSch : SchemeHypGen C S) (hE : Render.EnumsOK C.enums)
    (hs : w.scheme = some S) (hm : w.mode = .strict) (hsort : w.sorting = false)
    (hwf : ∀ c, some c ∈ r.slots → ValueWF C c.col.value)
    (h : w.write C K r = (w', .ok ())) :
    ∃ line : Text, w'.out = w.out ++ [line ++ ['\n']] ∧
      (∃ r', Record.fromLine C (line ++ ['\n']) none (some S) lineNo (some .strict) = .ok (r', [])
          ∧ r'.errors = []) ∧
      (∃ r', Record.fromLine C line none (some S) lineNo (some .strict) = .ok (r', [])
          ∧ r'.errors = []) := by
  obtain ⟨t, hv, ht, rfl⟩ := (Writer.write_direct_strict hs hSch.ok.truthy hm hsort).1 h
  exact ⟨t, rfl, Record.line_accepted_gen hSch.ok hE hSch.typed hwf hv ht lineNo⟩

/-- The property C06.4 for schemes whose classes are all column types of the development
    (`SchemeHyp`), columns of any subclass of them.  `BaseIsPlain C` says that the class *named*
    `MafColumnRecord`, for which `Column.schemeErrors` skips the twin check, is the plain base
    class and therefore not one of the scheme's (custom) classes.  The hypothesis on the classes
    of the record's columns is not used by the proof, `emitted_line_accepted_statement_holds`:
    validation against the scheme says all that is needed about them. -/
def emitted_line_accepted_statement : Prop :=
  ∀ (C : Ctx) (K : HConsts) (w w' : Writer) (r : Record) (S : Scheme) (lineNo : Option Nat),
    SchemeHyp C S → BaseIsPlain C → Render.EnumsOK C.enums →
    (∀ c, some c ∈ r.slots → ClassTyped C c.col.cls) →
    w.scheme = some S → w.mode = .strict → w.sorting = false →
    (∀ c, some c ∈ r.slots → ValueWF C c.col.value) →
    w.write C K r = (w', .ok ()) →
    ∃ line : Text, w'.out = w.out ++ [line ++ ['\n']] ∧
      ∃ r', Record.fromLine C (line ++ ['\n']) none (some S) lineNo (some .strict) = .ok (r', [])
        ∧ r'.errors = []

theorem emitted_line_accepted_statement_holds : emitted_line_accepted_statement := by
  intro C K w w' r S lineNo hSch hb hE _ hs hm hsort hwf h
  obtain ⟨line, h1, h2, _⟩ := emitted_line_accepted C K w w' r S lineNo (hSch.gen hb) hE hs hm hsort hwf h
  exact ⟨line, h1, h2⟩

/-- the case of columns exactly of the scheme's classes, where the twin check plays no part and
    no hypothesis on the class named `MafColumnRecord` is needed -/
theorem emitted_line_accepted_partial (C : Ctx) (K : HConsts) (w w' : Writer) (r : Record)
    (S : Scheme) (lineNo : Option Nat)
    (hSch : SchemeHyp C S) (hE : Render.EnumsOK C.enums)
    (hs : w.scheme = some S) (hm : w.mode = .strict) (hsort : w.sorting = false)
    (hexact : ∀ (i : Nat) (c : RCol) (p : String × String),
      r.slots[i]? = some (some c) → S.cols[i]? = some p → c.col.cls = p.2)
    (hwf : ∀ c, some c ∈ r.slots → ValueWF C c.col.value)
    (h : w.write C K r = (w', .ok ())) :
    ∃ line : Text, w'.out = w.out ++ [line ++ ['\n']] ∧
      (∃ r', Record.fromLine C (line ++ ['\n']) none (some S) lineNo (some .strict) = .ok (r', [])
          ∧ r'.errors = []) ∧
      (∃ r', Record.fromLine C line none (some S) lineNo (some .strict) = .ok (r', [])
          ∧ r'.errors = []) := by
  obtain ⟨t, hv, ht, rfl⟩ := (Writer.write_direct_strict hs hSch.ok.truthy hm hsort).1 h
  exact ⟨t, rfl, Record.line_accepted hSch.ok hE hSch.typed hexact hwf hv ht lineNo⟩

/-- the reader-side statement on its own: any line made of `len(S)` TAB/CR/LF-free fields,
    each accepted by the class of its column, is accepted by a Strict `from_line` -/
theorem clean_accepted_fields_accepted (C : Ctx) (S : Scheme) (hS : SchemeOK C S)
    (fields : List Text) (hlen : fields.length = S.size)
    (hclean : ∀ f ∈ fields, ∀ ch ∈ f, ch ≠ '\t' ∧ ch ≠ '\n' ∧ ch ≠ '\r')
    (hall : ∀ (i : Nat) (n cls : String) (sp : ColSpec) (f : Text),
      S.cols[i]? = some (n, cls) → resolveSpec C.tbl cls = some sp → fields[i]? = some f →
      (sp.accept C false f).isSome = true)
    (lineNo : Option Nat) :
    ∃ r', Record.fromLine C (joinWith '\t' fields ++ ['\n']) none (some S) lineNo (some .strict)
        = .ok (r', []) ∧ r'.errors = [] :=
  fromLine_strict_accepts hS fields hlen (fun f hf => hasFieldSep_eq_false.2 (hclean f hf)) hall
    lineNo ['\n'] (.inr (.inl rfl))

/-- the same for the general form of the scheme hypotheses (`MafColumnRecord` columns accept
    every text: `plainOk`) -/
theorem clean_accepted_fields_accepted_gen (C : Ctx) (S : Scheme) (hS : SchemeOKGen C S)
    (fields : List Text) (hlen : fields.length = S.size)
    (hclean : ∀ f ∈ fields, ∀ ch ∈ f, ch ≠ '\t' ∧ ch ≠ '\n' ∧ ch ≠ '\r')
    (hall : ∀ (i : Nat) (n cls : String) (sp : ColSpec) (f : Text),
      S.cols[i]? = some (n, cls) → resolveSpec C.tbl cls = some sp → fields[i]? = some f →
      (sp.accept C (plainOk cls) f).isSome = true)
    (lineNo : Option Nat) :
    ∃ r', Record.fromLine C (joinWith '\t' fields ++ ['\n']) none (some S) lineNo (some .strict)
        = .ok (r', []) ∧ r'.errors = [] := by
  obtain ⟨r', h1, h2, _⟩ := fromLine_strict_accepts_gen hS fields hlen hclean hall lineNo ['\n']
    (.inr (.inl rfl))
  exact ⟨r', h1, h2⟩

/-! ### 5. the sorting path: what `close` emits -/

/-- the column names the sorter's codec uses: the keys of the first queued record -/
def codecNames (w : Writer) : Option (List Text) :=
  w.queued.head?.map (fun r =>
    r.keys.map (fun k => match k with | some t => t | none => "\x00<None>".toList))

/-- the same function under the name the lemma files use -/
theorem codecNames_eq : codecNames = codecNamesOf := rfl

/-- **`close`.**  A non-sorting writer emits nothing at `close`.  A sorting writer appends
    lines to the handle, each of which went through the sorter's codec: the queued record is
    rendered, the rendering is re-read by `from_line` *in Strict mode* (against the writer's
    scheme — a failure aborts `close`), and the record read is rendered and emitted.  The
    emitted records are, in order, a prefix (all of them when `close` succeeds) of a
    permutation of the queued records that could be keyed. -/
theorem close_emits (C : Ctx) (K : HConsts) (w : Writer) :
    (w.sorting = false → w.close C K = (w, .ok ())) ∧
    (w.sorting = true →
      ∃ (items : List (Key × Record)) (lines : List Text),
        (w.close C K).1.out = w.out ++ lines ∧
        items.Perm (w.queued.filterMap (fun r => match w.keyOf K r with
          | .ok k => some (k, r) | .error _ => none)) ∧
        List.Forall₂ (fun (kr : Key × Record) l => EmittedFor C w.scheme (codecNames w) kr.2 l)
          (items.take lines.length) lines ∧
        ((w.close C K).2 = .ok () → lines.length = items.length)) :=
  codecNames_eq ▸ Writer.close_spec C K w

/-- The sorting counterpart of C06.4: every line `close` emits is accepted by a Strict reader
    (`close_lines_accepted`).  `w.mode = .strict` describes the writer the property is about; the
    proof does not use it, since the sorter's codec re-reads in Strict mode whatever the writer's
    stringency. -/
def close_lines_accepted_statement : Prop :=
  ∀ (C : Ctx) (K : HConsts) (w : Writer) (S : Scheme) (lines : List Text) (lineNo : Option Nat),
    SchemeHyp C S → Render.FloatHost.Lawful' C.H → Render.EnumsOK C.enums →
    w.scheme = some S → w.mode = .strict → w.sorting = true →
    (∀ r ∈ w.queued, (r.validate C (some .strict) true (some S)).2 = .ok []) →
    (w.close C K).1.out = w.out ++ lines →
    ∀ l ∈ lines, ∃ r', Record.fromLine C l none (some S) lineNo (some .strict) = .ok (r', []) ∧
      r'.errors = []

/-- **C06.5 — every line `close` emits is accepted by a Strict reader.**  For a sorting Strict
    writer whose queued records all passed Strict validation against the scheme (that is how
    `+=` queues them: `queue_validated`).  Each emitted line is the rendering of a record the
    sorter's codec read back in Strict mode, so its values come from parsing and the fixpoint
    lemmas of C04 apply field by field (hence the float-host laws; no `ValueWF` is needed, and
    the queued records may hold columns of proper subclasses).  Schemes: column types of the
    development (`SchemeHyp`). -/
theorem close_lines_accepted : close_lines_accepted_statement := by
  intro C K w S lines lineNo hSch hH hE hs _ hsort hq hout
  exact Writer.close_lines_accepted hSch.ok hSch.typed hH hE hs hsort
    (fun r hr => ⟨[], hq r hr⟩) hout lineNo

theorem queue_validated (C : Ctx) (K : HConsts) (w : Writer) (S : Scheme) (r : Record)
    (hs : w.scheme = some S) (hS : S.truthy = true) (hm : w.mode = .strict)
    (hq : ∀ q ∈ w.queued, (q.validate C (some .strict) true (some S)).2 = .ok []) :
    (w.write C K r).1.scheme = some S ∧ (w.write C K r).1.mode = .strict ∧
    (w.write C K r).1.sorting = w.sorting ∧
    ∀ q ∈ (w.write C K r).1.queued, (q.validate C (some .strict) true (some S)).2 = .ok [] := by
  rcases Writer.write_cases C K r hs hS hm with
    ⟨_, hw, _⟩ | ⟨hv, _, _, ⟨_, hw⟩ | ⟨_, _, hw⟩⟩ <;> rw [hw]
  · exact ⟨hs, hm, rfl, hq⟩
  · exact ⟨hs, hm, rfl, hq⟩
  · refine ⟨hs, hm, rfl, fun q hq' => ?_⟩
    rcases List.mem_append.1 hq' with hq' | hq'
    · exact hq q hq'
    · -- validating again (with `reset_errors`) does not look at the errors recorded before
      cases List.mem_singleton.1 hq'
      exact hv

/-- `writer += r₁; writer += r₂; …` (a refused record raises and leaves the writer as it was) -/
def writeAll (C : Ctx) (K : HConsts) (w : Writer) : List Record → Writer
  | [] => w
  | r :: rs => writeAll C K (w.write C K r).1 rs

/-- **C06.5, end to end.**  A sorting Strict writer with scheme `S` and nothing queued is fed
    any records whatsoever by `+=` (some accepted, some refused), then closed: every line the
    handle receives at `close` is accepted by a Strict reader. -/
theorem sorted_writer_lines_accepted (C : Ctx) (K : HConsts) (w : Writer) (S : Scheme)
    (rs : List Record) (lines : List Text) (lineNo : Option Nat)
    (hSch : SchemeHyp C S) (hH : Render.FloatHost.Lawful' C.H) (hE : Render.EnumsOK C.enums)
    (hs : w.scheme = some S) (hm : w.mode = .strict) (hsort : w.sorting = true)
    (hq : w.queued = [])
    (hout : ((writeAll C K w rs).close C K).1.out = (writeAll C K w rs).out ++ lines) :
    ∀ l ∈ lines, ∃ r', Record.fromLine C l none (some S) lineNo (some .strict) = .ok (r', []) ∧
      r'.errors = [] := by
  have hS := hSch.ok.truthy
  -- from here on only: every queued record passed Strict validation (`queue_validated`)
  have hq' : ∀ q ∈ w.queued, (q.validate C (some .strict) true (some S)).2 = .ok [] := by
    rw [hq]; nofun
  clear hq
  induction rs generalizing w with
  | nil => exact close_lines_accepted C K w S lines lineNo hSch hH hE hs hm hsort hq' hout
  | cons r rs ih =>
    obtain ⟨g1, g2, g3, g4⟩ := queue_validated C K w S r hs hS hm hq'
    exact ih _ g1 g2 (g3.trans hsort) hout g4

/-! ### non-vacuity: a concrete writer over the generated class table -/

def demoC : Ctx := C01Record.demoC
def demoS : Scheme := C01Record.demoS
def demoK : HConsts := default

def col0 : RCol := ⟨0, { cls := "StringColumn", key := "Hugo_Symbol".toList, value := .atom (.str "TP53".toList), index := some 0 }⟩
def col1 : RCol := ⟨1, { cls := "OneBasedIntegerColumn", key := "Start_Position".toList, value := .atom (.int 7), index := some 1 }⟩
def col2 : RCol := ⟨2, { cls := "Strand", key := "Strand".toList, value := .atom (.enum "StrandEnum" "Plus"), index := some 2 }⟩

/-- a coherent three-column record -/
def demoR : Record :=
  { dict := [("Hugo_Symbol".toList, col0), ("Start_Position".toList, col1), ("Strand".toList, col2)],
    slots := [some col0, some col1, some col2] }

/-- the same with a TAB inside the first value, and with a `bool` where an integer is due -/
def badR1 : Record :=
  let c : RCol := ⟨0, { col0.col with value := .atom (.str "TP\t53".toList) }⟩
  { dict := [("Hugo_Symbol".toList, c), ("Start_Position".toList, col1), ("Strand".toList, col2)],
    slots := [some c, some col1, some col2] }
def badR2 : Record :=
  let c : RCol := ⟨1, { col1.col with value := .atom (.bool true) }⟩
  { dict := [("Hugo_Symbol".toList, col0), ("Start_Position".toList, c), ("Strand".toList, col2)],
    slots := [some col0, some c, some col2] }

def demoW : Writer := { scheme := some demoS, mode := .strict }
def demoWs : Writer := { scheme := some demoS, mode := .strict, sorting := true, assumeSorted := false }

theorem demo_truthy : demoS.truthy = true := by decide

theorem demo_schemeHyp : SchemeHyp demoC demoS where
  ok := C01Record.demo_hyp
  typed := typed_of_check (by decide +kernel)

theorem demo_valid : (demoR.validate demoC (some .strict) true (some demoS)).2 = .ok [] := by
  decide +kernel

/-- 1.: the hypothesis of `validate_ok_shape` is met by `demoR` … -/
example : (demoR.validate demoC (some .strict) true (some demoS)).2 = .ok [] := demo_valid

theorem bad1_invalid : (badR1.validate demoC (some .strict) true (some demoS)).2
    = .error (.format "RECORD_COLUMN_WRONG_FORMAT" none) := by decide +kernel

/-- … and Strict validation refuses the two bad records (framing check; `bool` is no integer) -/
example : (badR1.validate demoC (some .strict) true (some demoS)).2
    = .error (.format "RECORD_COLUMN_WRONG_FORMAT" none) := bad1_invalid
example : (badR2.validate demoC (some .strict) true (some demoS)).2
    = .error (.format "RECORD_COLUMN_WRONG_FORMAT" none) := by decide +kernel

/-- 2.: the hypotheses of `refused_no_bytes` are met (direct writer, format error) … -/
example : (demoW.write demoC demoK badR1).2 = .error (.format "RECORD_COLUMN_WRONG_FORMAT" none) := by
  rw [Writer.write_of_invalid rfl demo_truthy rfl bad1_invalid]
example : (demoW.write demoC demoK badR1).1.out = [] :=
  (refused_no_bytes demoC demoK demoW badR1 demoS _ rfl demo_truthy rfl
    (by rw [Writer.write_of_invalid rfl demo_truthy rfl bad1_invalid])).2.1

/-- … and of `unkeyable_refused` (sorting writer, valid record without coordinates: `KeyError`) -/
example : demoR.toLoc.hasCoords = false := by decide +kernel
example : (demoWs.write demoC demoK demoR).2 = .error .key := by
  rw [Writer.write_of_unkeyable rfl demo_truthy rfl rfl demo_valid
    (by decide +kernel : demoWs.keyOf demoK demoR = .error .key)]

/-- 3. and 4.: the direct writer accepts `demoR` and emits the expected line … -/
theorem demo_write_eq :
    demoW.write demoC demoK demoR = ({ demoW with out := ["TP53\t7\t+".toList ++ ['\n']] }, .ok ()) :=
  (Writer.write_direct_strict rfl demo_truthy rfl rfl).2 ⟨_, demo_valid,
    (by decide +kernel : demoR.render demoC = .ok "TP53\t7\t+".toList), rfl⟩
theorem demo_write_out : (demoW.write demoC demoK demoR).1.out = ["TP53\t7\t+\n".toList] := by
  rw [demo_write_eq]; decide
theorem demo_write : demoW.write demoC demoK demoR = ((demoW.write demoC demoK demoR).1, .ok ()) := by
  rw [demo_write_eq]

theorem baseIsPlain_demo : BaseIsPlain demoC := by
  intro sp hsp
  have : resolveSpec demoC.tbl "MafColumnRecord" = some sp := hsp
  have h2 : (resolveSpec demoC.tbl "MafColumnRecord").map (·.buildMethod) = some (some "MafColumnRecord") := by
    decide +kernel
  rw [this] at h2
  simpa using h2

theorem demo_wf : ∀ c, some c ∈ demoR.slots → ValueWF demoC c.col.value := by
  intro c hc
  simp only [demoR, List.mem_cons, Option.some.injEq, List.mem_nil_iff, or_false] at hc
  rcases hc with rfl | rfl | rfl
  · trivial
  · trivial
  · show (enumValue demoC.enums "StrandEnum" "Plus").isSome = true
    decide +kernel

/-- … and all hypotheses of `emitted_line_accepted` hold, so the line is read back -/
example : ∃ r', Record.fromLine demoC "TP53\t7\t+\n".toList none (some demoS) (some 5) (some .strict)
    = .ok (r', []) ∧ r'.errors = [] := by
  obtain ⟨line, hout, h1, _⟩ := emitted_line_accepted demoC demoK demoW _ demoR demoS (some 5)
    (demo_schemeHyp.gen baseIsPlain_demo) Render.enumsOK_generated rfl rfl rfl demo_wf demo_write
  rw [demo_write_out] at hout
  have hl : "TP53\t7\t+\n".toList = line ++ ['\n'] := by
    simpa [demoW] using hout
  rw [hl]
  exact h1

/-- … as do those of the special case `emitted_line_accepted_partial` -/
example : ∀ (i : Nat) (c : RCol) (p : String × String),
    demoR.slots[i]? = some (some c) → demoS.cols[i]? = some p → c.col.cls = p.2 := by
  intro i c p hc hp
  match i with
  | 0 => simp [demoR, demoS, C01Record.demoS] at hc hp; subst hc; subst hp; rfl
  | 1 => simp [demoR, demoS, C01Record.demoS] at hc hp; subst hc; subst hp; rfl
  | 2 => simp [demoR, demoS, C01Record.demoS] at hc hp; subst hc; subst hp; rfl
  | n + 3 => simp [demoR] at hc

/-! ### the twin check at work: a column of a nullable subclass holding its null value -/

/-- a one-column scheme whose column is a (non-nullable) `IntegerColumn` -/
def cexS : Scheme := { version := "v", annotation := "a", cols := [("Score", "IntegerColumn")] }

/-- a record holding, in that slot, a `NullableIntegerColumn` (a subclass of `IntegerColumn`)
    with the null value `None` -/
def cexCol : RCol := ⟨0, { cls := "NullableIntegerColumn", key := "Score".toList, value := .atom .none, index := some 0 }⟩
def cexR : Record := { dict := [("Score".toList, cexCol)], slots := [some cexCol] }
def cexW : Writer := { scheme := some cexS, mode := .strict }

theorem cex_schemeHyp : SchemeHyp demoC cexS where
  ok := C01Record.hyp_of_check _ _ (by decide +kernel)
  typed := typed_of_check (by decide +kernel)

/-- **A null value in a non-nullable slot is refused (kernel-checked).**  `NullableIntegerColumn` derives
    from `IntegerColumn` and `None` is its null value, so the class check (`isinstance`) and the
    column's own value check pass; but the column's twin — an `IntegerColumn` holding `None` — is
    not valid, so Strict validation against the scheme reports `RECORD_COLUMN_WRONG_FORMAT`: the
    Strict writer raises and emits nothing.  (The line such a record would print, `"\n"`, is one
    the Strict reader refuses — the last conjunct.) -/
theorem nullable_subclass_refused :
    (cexR.validate demoC (some .strict) true (some cexS)).2
      = .error (.format "RECORD_COLUMN_WRONG_FORMAT" none) ∧
    (cexW.write demoC demoK cexR).2 = .error (.format "RECORD_COLUMN_WRONG_FORMAT" none) ∧
    (cexW.write demoC demoK cexR).1.out = [] ∧
    Record.fromLine demoC "\n".toList none (some cexS) (some 1) (some .strict)
      = .error (.format "RECORD_INVALID_COLUMN_VALUE" (some 1)) := by
  have hv : (cexR.validate demoC (some .strict) true (some cexS)).2
      = .error (.format "RECORD_COLUMN_WRONG_FORMAT" none) := by decide +kernel
  rw [Writer.write_of_invalid (w := cexW) rfl (by decide) rfl hv]
  refine ⟨hv, rfl, rfl, ?_⟩
  rw [fromLine_spec cex_schemeHyp.ok _ _ _ (by decide +kernel)]
  decide +kernel

/-! ### non-vacuity of the general case: a proper subclass, and an unrestricted scheme -/

/-- the same `NullableIntegerColumn` in the `IntegerColumn` slot, holding the integer 5:
    its twin (an `IntegerColumn` holding 5) is valid and renders alike, so it is accepted … -/
def subCol : RCol := ⟨0, { cexCol.col with value := .atom (.int 5) }⟩
def subR : Record := { dict := [("Score".toList, subCol)], slots := [some subCol] }

theorem sub_write_eq : cexW.write demoC demoK subR = ({ cexW with out := ["5".toList ++ ['\n']] }, .ok ()) :=
  (Writer.write_direct_strict rfl (by decide) rfl rfl).2
    ⟨_, (by decide +kernel : (subR.validate demoC (some .strict) true (some cexS)).2 = .ok []),
      (by decide +kernel : subR.render demoC = .ok "5".toList), rfl⟩
theorem sub_write_out : (cexW.write demoC demoK subR).1.out = ["5\n".toList] := by
  rw [sub_write_eq]; decide
theorem sub_write : cexW.write demoC demoK subR = ((cexW.write demoC demoK subR).1, .ok ()) := by
  rw [sub_write_eq]

/-- … the column is of a PROPER subclass of the scheme's class (outside the special case
    `emitted_line_accepted_partial`), and the emitted line is read back by the Strict reader -/
example : subCol.col.cls ≠ "IntegerColumn" ∧
    ∃ r', Record.fromLine demoC "5\n".toList none (some cexS) (some 1) (some .strict) = .ok (r', [])
      ∧ r'.errors = [] := by
  refine ⟨by decide, ?_⟩
  obtain ⟨line, hout, h1, _⟩ := emitted_line_accepted demoC demoK cexW _ subR cexS (some 1)
    (cex_schemeHyp.gen baseIsPlain_demo) Render.enumsOK_generated rfl rfl rfl
    (by
      intro c hc
      simp only [subR, List.mem_cons, Option.some.injEq, List.mem_nil_iff, or_false] at hc
      subst hc
      trivial)
    sub_write
  rw [sub_write_out] at hout
  have hl : "5\n".toList = line ++ ['\n'] := by simpa [cexW] using hout
  rw [hl]
  exact h1

/-- an unrestricted scheme (`NoRestrictionsScheme`): every column is a plain `MafColumnRecord` -/
def plainS : Scheme := noRestrictionsScheme ["Anything", "Other"]
def plainCol0 : RCol := ⟨0, { cls := "MafColumnRecord", key := "Anything".toList, value := .atom (.str "a b;c".toList), index := some 0 }⟩
def plainCol1 : RCol := ⟨1, { cls := "MafColumnRecord", key := "Other".toList, value := .atom (.str [] ), index := some 1 }⟩
def plainR : Record :=
  { dict := [("Anything".toList, plainCol0), ("Other".toList, plainCol1)],
    slots := [some plainCol0, some plainCol1] }
def plainW : Writer := { scheme := some plainS, mode := .strict }

theorem plain_schemeHyp : SchemeHypGen demoC plainS where
  ok := schemeOKGen_of_check _ _ (by decide +kernel)
  typed := by
    intro p hp hne
    have : p.2 = "MafColumnRecord" := by
      have hall : plainS.cols.all (fun p => p.2 == "MafColumnRecord") = true := by decide +kernel
      simpa using List.all_eq_true.1 hall p hp
    exact absurd this hne

theorem plain_write_eq :
    plainW.write demoC demoK plainR = ({ plainW with out := ["a b;c\t".toList ++ ['\n']] }, .ok ()) :=
  (Writer.write_direct_strict rfl plain_schemeHyp.ok.truthy rfl rfl).2
    ⟨_, (by decide +kernel : (plainR.validate demoC (some .strict) true (some plainS)).2 = .ok []),
      (by decide +kernel : plainR.render demoC = .ok "a b;c\t".toList), rfl⟩
theorem plain_write_out : (plainW.write demoC demoK plainR).1.out = ["a b;c\t\n".toList] := by
  rw [plain_write_eq]; decide
theorem plain_write : plainW.write demoC demoK plainR = ((plainW.write demoC demoK plainR).1, .ok ()) := by
  rw [plain_write_eq]

example : ∃ r', Record.fromLine demoC "a b;c\t\n".toList none (some plainS) (some 1) (some .strict)
    = .ok (r', []) ∧ r'.errors = [] := by
  obtain ⟨line, hout, h1, _⟩ := emitted_line_accepted demoC demoK plainW _ plainR plainS (some 1)
    plain_schemeHyp Render.enumsOK_generated rfl rfl rfl
    (by
      intro c hc
      simp only [plainR, List.mem_cons, Option.some.injEq, List.mem_nil_iff, or_false] at hc
      rcases hc with rfl | rfl <;> trivial)
    plain_write
  rw [plain_write_out] at hout
  have hl : "a b;c\t\n".toList = line ++ ['\n'] := by simpa [plainW] using hout
  rw [hl]
  exact h1

/-- non-vacuity of `bad_position_refused`: unrestricted scheme with the three coordinate columns,
    the start position `abc` is not a number; the record validates, has its coordinates, and the
    sorting Strict writer refuses it with `KeyError`, untouched -/
def posS : Scheme := noRestrictionsScheme ["Chromosome", "Start_Position", "End_Position"]
def posCol (i : Nat) (k v : String) : RCol :=
  ⟨i, { cls := "MafColumnRecord", key := k.toList, value := .atom (.str v.toList), index := some i }⟩
def posR : Record :=
  { dict := [("Chromosome".toList, posCol 0 "Chromosome" "chr1"),
             ("Start_Position".toList, posCol 1 "Start_Position" "abc"),
             ("End_Position".toList, posCol 2 "End_Position" "7")],
    slots := [some (posCol 0 "Chromosome" "chr1"), some (posCol 1 "Start_Position" "abc"),
              some (posCol 2 "End_Position" "7")] }
def posWs : Writer := { scheme := some posS, mode := .strict, sorting := true, assumeSorted := false }

example : (posR.validate demoC (some .strict) true (some posS)).2 = .ok [] ∧
    posR.toLoc.hasCoords = true ∧ posR.toLoc.start = .str "abc".toList ∧
    posWs.write demoC demoK posR = (posWs, .error .key) := by
  have hv : (posR.validate demoC (some .strict) true (some posS)).2 = .ok [] := by decide +kernel
  have h0 : posR.toLoc.hasCoords = true := by decide +kernel
  have hs : posR.toLoc.start = .str "abc".toList := by decide +kernel
  refine ⟨hv, h0, hs, ?_⟩
  exact bad_position_refused demoC demoK posWs posR posS rfl (by decide +kernel) rfl rfl hv h0
    (.inl (by decide +kernel)) (.inl (by rw [hs]; decide))

/-- the per-type statement applies to values that never came from parsing: the `str` `""` in a
    `NullableStringColumn` (re-read as `None`) and `[Null]` in a list of yes/no (re-read as `[]`) -/
example : ∃ t, Expected.NullableStringColumn.render demoC.enums (.atom (.str [])) = .ok t ∧
    (Expected.NullableStringColumn.accept demoC false t).isSome = true := by
  obtain ⟨t, h1, h2, _⟩ := valid_value_renders_accepted demoC Render.enumsOK_generated
    (.named "NullableStringColumn") Expected.NullableStringColumn (by decide) (.atom (.str []))
    (by decide) trivial
  exact ⟨t, h1, h2⟩

example : ∃ t, Expected.SequenceOfNullableYesOrNo.render demoC.enums
      (.list [.enum "NullableYesOrNoEnum" "Null"]) = .ok t ∧
    (Expected.SequenceOfNullableYesOrNo.accept demoC false t).isSome = true := by
  obtain ⟨t, h1, h2, _⟩ := valid_value_renders_accepted demoC Render.enumsOK_generated
    (.named "SequenceOfNullableYesOrNo") Expected.SequenceOfNullableYesOrNo (by decide +kernel)
    (.list [.enum "NullableYesOrNoEnum" "Null"]) (by decide +kernel)
    (by intro a ha; simp at ha; subst ha; show (enumValue _ _ _).isSome = true; decide +kernel)
  exact ⟨t, h1, h2⟩

/-! ### non-vacuity of the sorting path -/

/-- generated tables with a lawful float host (`Render.intHost`) -/
def sortC : Ctx := ⟨Generated.classTable, Generated.enums, Render.intHost⟩

def sortS : Scheme :=
  { version := "v", annotation := "a",
    cols := [("Chromosome", "StringColumn"), ("Start_Position", "OneBasedIntegerColumn"),
             ("End_Position", "OneBasedIntegerColumn")] }

def locRec (ch : String) (s e : Int) : Record :=
  let c0 : RCol := ⟨0, { cls := "StringColumn", key := "Chromosome".toList, value := .atom (.str ch.toList), index := some 0 }⟩
  let c1 : RCol := ⟨1, { cls := "OneBasedIntegerColumn", key := "Start_Position".toList, value := .atom (.int s), index := some 1 }⟩
  let c2 : RCol := ⟨2, { cls := "OneBasedIntegerColumn", key := "End_Position".toList, value := .atom (.int e), index := some 2 }⟩
  { dict := [("Chromosome".toList, c0), ("Start_Position".toList, c1), ("End_Position".toList, c2)],
    slots := [some c0, some c1, some c2] }

def sortW : Writer := { scheme := some sortS, mode := .strict, sorting := true, assumeSorted := false }

theorem sort_schemeHyp : SchemeHyp sortC sortS where
  ok := C01Record.hyp_of_check _ _ (by decide +kernel)
  typed := typed_of_check (by decide +kernel)

/-- two records and one refused record (position 0 in a one-based column) are fed to the
    sorting writer; `close` emits the two accepted ones … -/
def sortInput : List Record := [locRec "chr1" 7 9, locRec "chr1" 0 3, locRec "chr2" 5 6]

theorem sort_refused : ((sortW.write sortC demoK (locRec "chr1" 7 9)).1.write sortC demoK
    (locRec "chr1" 0 3)).2 = .error (.format "RECORD_COLUMN_WRONG_FORMAT" none) := by decide +kernel

theorem sort_close_out :
    ((writeAll sortC demoK sortW sortInput).close sortC demoK).1.out =
      (writeAll sortC demoK sortW sortInput).out ++ ["chr1\t7\t9\n".toList, "chr2\t5\t6\n".toList] :=
  -- (`mergeSort` does not reduce in the kernel: go through `Writer.close_of_sorted`)
  Writer.close_of_sorted _ _ _ _ (by decide +kernel)

/-- … and both lines are accepted by the Strict reader (all hypotheses of
    `sorted_writer_lines_accepted` hold) -/
example : ∀ l ∈ ["chr1\t7\t9\n".toList, "chr2\t5\t6\n".toList],
    ∃ r', Record.fromLine sortC l none (some sortS) (some 3) (some .strict) = .ok (r', []) ∧
      r'.errors = [] :=
  sorted_writer_lines_accepted sortC demoK sortW sortS sortInput _ (some 3) sort_schemeHyp
    Render.intHost_lawful Render.enumsOK_generated rfl rfl rfl rfl sort_close_out

end C06
