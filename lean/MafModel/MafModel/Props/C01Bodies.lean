/-
  C01 / C04 — the `__build__` hooks that do not consult a host parser (`_BuildStringColumn.__build__`, inherited by the
  string and DNA column classes, and the default `MafCustomColumnRecord.__build__`), translated from the source on every
  run and interpreted, equal the hand model's `runBuild` over the regenerated class table, for every text.
  (The hooks that call `int()` / `float()` / `UUID()` / an enum constructor are translated and executed against the real
  methods on every run — `body.build` — but not proved: DESIGN.md §3.3.)
-/
import MafModel.Lemmas.BodiesEmb
open Py PyIR Bodies

namespace C01Bodies

set_option smartUnfolding false

theorem build_NullableStringColumn (fp) (t : Text) : hookBuild fp "NullableStringColumn" t = modelBuild fp "NullableStringColumn" t := by rfl
theorem build_StringColumn (fp) (t : Text) : hookBuild fp "StringColumn" t = modelBuild fp "StringColumn" t := by rfl
theorem build_NullableDnaString (fp) (t : Text) : hookBuild fp "NullableDnaString" t = modelBuild fp "NullableDnaString" t := by rfl
theorem build_DnaString (fp) (t : Text) : hookBuild fp "DnaString" t = modelBuild fp "DnaString" t := by rfl
theorem build_MafCustomColumnRecord (fp) (t : Text) : hookBuild fp "MafCustomColumnRecord" t = modelBuild fp "MafCustomColumnRecord" t := by rfl

/-- non-vacuity: the interpreted hook really returns the text -/
example (fp) : hookBuild fp "StringColumn" "TP53".toList = .ok (.str "TP53".toList) := by rfl

end C01Bodies
