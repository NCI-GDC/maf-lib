/-
  C20 — scheme registration is monotone and first-class.

  `all_schemes(extra_filenames=…)` of `maflib/scheme_factory.py` as the state machine
  `RegState.register`: a call loads the built-in definitions with the extras registered so
  far and the new ones (`load_all_schemes`, `loadAll`), and registers the new ones only if
  that load succeeds.  Registration is cumulative (1) and a failed call changes nothing (2);
  a registered scheme resolves by its `(version, annotation)` pair to its documented layout
  (3), header validation accepts it as it accepts a built-in (4), and the built-in schemes
  are what they are without the extras (5).

  Every statement of 3–5 is uniform over `d ∈ bs ++ s.extras`: nothing distinguishes
  a built-in from a registered definition.
-/
import MafModel.Model.Registry
import MafModel.Lemmas.RegistryLemmas
import MafModel.Props.C14Top
import MafModel.Props.C13
open Py Model

namespace C20

/-! ## 1. registration is cumulative -/

/-- **C20.1** — whether the call succeeds or fails, what was registered before is
    still registered afterwards, in the same order. -/
theorem monotone (tbl : ClassTable) (order : List Nat) (bs : List SchemeDef) (s : RegState)
    (defs : List SchemeDef) : s.extras <+: (s.register tbl order bs defs).1.extras := by
  unfold RegState.register
  split
  · exact List.prefix_append _ _
  · exact List.prefix_refl _

def history (tbl : ClassTable) (order : List Nat) (bs : List SchemeDef) (calls : List (List SchemeDef)) : RegState :=
  calls.foldl (fun s d => (s.register tbl order bs d).1) {}

theorem foldl_monotone (tbl : ClassTable) (order : List Nat) (bs : List SchemeDef)
    (calls : List (List SchemeDef)) (s : RegState) :
    s.extras <+: (calls.foldl (fun s d => (s.register tbl order bs d).1) s).extras := by
  induction calls generalizing s with
  | nil => exact List.prefix_refl _
  | cons d rest ih => exact (monotone tbl order bs s d).trans (ih _)

theorem history_append (tbl : ClassTable) (order : List Nat) (bs : List SchemeDef)
    (pre post : List (List SchemeDef)) :
    history tbl order bs (pre ++ post) =
      post.foldl (fun s d => (s.register tbl order bs d).1) (history tbl order bs pre) :=
  List.foldl_append

theorem register_ok {tbl : ClassTable} {order : List Nat} {bs : List SchemeDef} {s : RegState}
    {defs : List SchemeDef} (h : (s.register tbl order bs defs).2.toBool = true) :
    (s.register tbl order bs defs).1.extras = s.extras ++ defs ∧
      (loadAll tbl order bs (s.extras ++ defs)).toBool = true := by
  unfold RegState.register at h ⊢
  split
  · rename_i r hr; exact ⟨rfl, by rw [hr]; rfl⟩
  · rename_i e he; rw [he] at h; cases h

/-- **C20.1, histories** — in any history of calls, every definition of every call
    that succeeded (at the moment it was made) is in the final registry: a later
    registration, successful or not, never makes an earlier one disappear. -/
theorem monotone_history (tbl : ClassTable) (order : List Nat) (bs : List SchemeDef)
    (pre post : List (List SchemeDef)) (defs : List SchemeDef)
    (hok : ((history tbl order bs pre).register tbl order bs defs).2 = .ok ()) :
    ∀ d ∈ defs, d ∈ (history tbl order bs (pre ++ defs :: post)).extras := by
  intro d hd
  rw [history_append, List.foldl_cons]
  apply (foldl_monotone tbl order bs post _).subset
  rw [(register_ok (by rw [hok]; rfl)).1]
  exact List.mem_append_right _ hd

theorem history_prefix (tbl : ClassTable) (order : List Nat) (bs : List SchemeDef)
    (pre post : List (List SchemeDef)) :
    (history tbl order bs pre).extras <+: (history tbl order bs (pre ++ post)).extras := by
  rw [history_append]
  exact foldl_monotone tbl order bs post _

/-! ## 2. a failed registration changes nothing -/

/-- **C20.2** — a registration call that raises leaves the registry as it was. -/
theorem failed_registration_noop (tbl : ClassTable) (order : List Nat) (bs : List SchemeDef)
    (s : RegState) (defs : List SchemeDef) (e : PyErr)
    (h : (s.register tbl order bs defs).2 = .error e) : (s.register tbl order bs defs).1 = s := by
  unfold RegState.register at h ⊢
  split
  · rename_i r hr; rw [hr] at h; cases h
  · rfl

theorem register_fails_iff (tbl : ClassTable) (order : List Nat) (bs : List SchemeDef)
    (s : RegState) (defs : List SchemeDef) (e : PyErr) :
    (s.register tbl order bs defs).2 = .error e ↔ loadAll tbl order bs (s.extras ++ defs) = .error e := by
  unfold RegState.register
  split
  · rename_i r hr; simp [hr]
  · rename_i e' he; simp [he]

/-! ## 3. a registered scheme resolves to its documented layout

  `loadAll` = `checkSchemeData`, then `buildSchemesTop` (reject duplicate annotations,
  normalise base-less definitions, run the build loop), then `validateSchemes`. -/

open RegistryLemmas in
/-- **normalisation** keeps version, annotation and base; it only applies a base-less
    definition's own `filtered` list to its own columns.  Every definition has exactly
    one normalised counterpart, and a definition with a base (or without a `filtered`
    list) is its own counterpart. -/
theorem normalized_counterpart {data ds : List SchemeDef}
    (h : data.mapM SchemeDef.normalize = some ds) :
    ds.map (·.annotation) = data.map (·.annotation) ∧
    ∀ d ∈ data, ∃ d' ∈ ds, d.normalize = some d' ∧ d'.version = d.version ∧
      d'.annotation = d.annotation ∧ d'.base = d.base ∧ d'.hasBase = d.hasBase ∧
      d'.columns.Sublist d.columns ∧
      ((d.hasBase = none → d.filtered = none) → d' = d) ∧
      (∀ f, d.hasBase = none → d.filtered = some f →
        d'.filtered = none ∧ d'.columns = d.columns.filter (fun c => !f.contains c.1)) := by
  obtain ⟨hall, rfl⟩ := mapM_normalize_some h
  refine ⟨map_normD_annotation data, fun d hd => ?_⟩
  have hn := hall d hd
  refine ⟨normD d, List.mem_map.2 ⟨d, hd, rfl⟩, hn, normD_version d, normD_annotation d,
    normD_base d, by unfold SchemeDef.hasBase; rw [normD_base], normD_columns_sublist d,
    fun hid => normD_of_some (normalize_id hid), fun f hb hf => ?_⟩
  exact ⟨(normalize_baseless hn hb hf).1, (normalize_baseless hn hb hf).2.1⟩

open RegistryLemmas in
/-- **registered, no side conditions** — after a successful load every definition,
    built-in or extra, has a scheme in the list with its own version and annotation,
    and that scheme is not the no-restrictions pseudo-scheme -/
theorem registered {tbl : ClassTable} {order : List Nat} {bs ex : List SchemeDef}
    {tbl' : ClassTable} {ss : List Scheme} (h : loadAll tbl order bs ex = .ok (tbl', ss))
    {d : SchemeDef} (hd : d ∈ bs ++ ex) :
    ∃ sch ∈ ss, sch.version = d.version ∧ sch.annotation = d.annotation ∧ sch.noRestrictions = false := by
  obtain ⟨st, built, hbuild, rfl⟩ := (load_run h).built
  have hnd := map_normD_annotation (bs ++ ex) ▸ (load_run h).nodup
  obtain ⟨s, hg, hB⟩ := (plainInv_of_ok hnd hbuild).entry hnd (List.mem_map.2 ⟨d, hd, rfl⟩)
  exact ⟨s, List.mem_map.2 ⟨_, SchemeLemmas.mem_of_dictGet hg, rfl⟩,
    hB.version.trans (normD_version d), hB.annotation.trans (normD_annotation d), hB.proper⟩

open RegistryLemmas in
/-- conversely every scheme in the list comes from a definition -/
theorem registered_origin {tbl : ClassTable} {order : List Nat} {bs ex : List SchemeDef}
    {tbl' : ClassTable} {ss : List Scheme} (h : loadAll tbl order bs ex = .ok (tbl', ss))
    {sch : Scheme} (hs : sch ∈ ss) :
    ∃ d ∈ bs ++ ex, sch.version = d.version ∧ sch.annotation = d.annotation ∧ sch.noRestrictions = false := by
  obtain ⟨st, built, hbuild, rfl⟩ := (load_run h).built
  have hnd := map_normD_annotation (bs ++ ex) ▸ (load_run h).nodup
  obtain ⟨p, hp, rfl⟩ := List.mem_map.1 hs
  obtain ⟨d', hd', -, hB⟩ := (plainInv_of_ok hnd hbuild).ok p hp
  obtain ⟨d, hd, rfl⟩ := List.mem_map.1 hd'
  exact ⟨d, hd, hB.version.trans (normD_version d), hB.annotation.trans (normD_annotation d), hB.proper⟩

/-- lookup by `(version, annotation)` in the loaded list finds exactly the scheme with
    that pair (the pairs are distinct by `validate_schemes`) -/
theorem load_find {tbl : ClassTable} {order : List Nat} {bs ex : List SchemeDef}
    {tbl' : ClassTable} {ss : List Scheme} (h : loadAll tbl order bs ex = .ok (tbl', ss))
    {sch : Scheme} (hs : sch ∈ ss) (hne1 : sch.version ≠ "") (hne2 : sch.annotation ≠ "") :
    findSchemeClass (noRestrictionsClass :: ss) (some sch.version) (some sch.annotation) = .ok (some sch) :=
  C14.find_both (RegistryLemmas.load_run h).valid (List.mem_cons_of_mem _ hs) hne1 hne2

open RegistryLemmas in
theorem load_entry {tbl : ClassTable} {order : List Nat} {bs ex : List SchemeDef}
    {tbl' : ClassTable} {ss : List Scheme} (h : loadAll tbl order bs ex = .ok (tbl', ss))
    (hcols : ∀ d ∈ bs ++ ex, (d.columns.map (·.1)).Nodup) (hann : ∀ d ∈ bs ++ ex, d.annotation ≠ "")
    {d : SchemeDef} (hd : d ∈ bs ++ ex) :
    ∃ sch l, sch ∈ ss ∧ sch.version = d.version ∧ sch.annotation = d.annotation ∧
      sch.noRestrictions = false ∧ Spec.layoutOf ((bs ++ ex).map normD) d.annotation = some l ∧
      sch.names = l.map (·.1) := by
  obtain ⟨st, built, hbuild, rfl⟩ := (load_run h).built
  have hok := defsOK_normD (load_run h).nodup hcols hann
  obtain ⟨s, hg, hB⟩ := ((C14.entry_run hok _).inv hbuild).entry hok.1 (List.mem_map.2 ⟨d, hd, rfl⟩)
  obtain ⟨l, hl, hL⟩ := hB.prop.layout
  rw [normD_annotation] at hl
  exact ⟨s, l, List.mem_map.2 ⟨_, SchemeLemmas.mem_of_dictGet hg, rfl⟩, hB.version.trans (normD_version d),
    hB.annotation.trans (normD_annotation d), hB.proper, hl, hL.names⟩

open RegistryLemmas in
/-- **C20.3** — a registered scheme resolves by its `(version, annotation)` pair to
    its documented layout.

    Let the extras of `s` be registered (`loadAll … = .ok (tbl', ss)`, so
    `s.schemes … = ss`).  Then the definitions normalise to a list `ds`
    (`normalized_counterpart`: same versions, annotations and bases), `ds` is
    well-formed, and for every definition `d`, built-in or extra, with a non-empty
    version, `find_scheme_class(d.version, d.annotation)` over `all_schemes()` returns
    a scheme of the list that carries `d`'s version and annotation, is not the
    no-restrictions pseudo-scheme, and whose column names are exactly those of the
    declarative layout `Spec.layoutOf ds d.annotation`.

    Side conditions, stated explicitly: column names are distinct within each
    definition (`hcols`) and no annotation is empty (`hann`).  Distinct annotations are
    *not* a hypothesis: `buildSchemesTop` enforces them. -/
theorem resolves {tbl : ClassTable} {order : List Nat} {bs : List SchemeDef} {s : RegState}
    {tbl' : ClassTable} {ss : List Scheme}
    (hload : loadAll tbl order bs s.extras = .ok (tbl', ss))
    (hcols : ∀ d ∈ bs ++ s.extras, (d.columns.map (·.1)).Nodup)
    (hann : ∀ d ∈ bs ++ s.extras, d.annotation ≠ "") :
    s.schemes tbl order bs = ss ∧
    ∃ ds, (bs ++ s.extras).mapM SchemeDef.normalize = some ds ∧ C14.DefsOK ds ∧
      ∀ d ∈ bs ++ s.extras, d.version ≠ "" →
        ∃ sch l,
          findSchemeClass (noRestrictionsClass :: ss) (some d.version) (some d.annotation) = .ok (some sch) ∧
          sch ∈ ss ∧ sch.version = d.version ∧ sch.annotation = d.annotation ∧
          sch.noRestrictions = false ∧
          Spec.layoutOf ds d.annotation = some l ∧ sch.names = l.map (·.1) := by
  refine ⟨by unfold RegState.schemes; rw [hload], ?_⟩
  refine ⟨_, (load_run hload).normalized, defsOK_normD (load_run hload).nodup hcols hann, fun d hd hne => ?_⟩
  obtain ⟨sch, l, hs, hv, ha, hnr, hl, hnames⟩ := load_entry hload hcols hann hd
  exact ⟨sch, l, hv ▸ ha ▸ load_find hload hs (hv ▸ hne) (ha ▸ hann d hd), hs, hv, ha, hnr, hl, hnames⟩

open RegistryLemmas in
/-- **C20.3, without normalisation** — when no base-less definition carries a
    `filtered` list (the side condition of `C14Top.top_eq_build`; true of the shipped
    definitions, `C14Top.generated_top_eq_build`), the layout is that of the
    definitions as written: `Spec.layoutOf (bs ++ s.extras) d.annotation`. -/
theorem resolves_plain {tbl : ClassTable} {order : List Nat} {bs : List SchemeDef} {s : RegState}
    {tbl' : ClassTable} {ss : List Scheme}
    (hload : loadAll tbl order bs s.extras = .ok (tbl', ss))
    (hcols : ∀ d ∈ bs ++ s.extras, (d.columns.map (·.1)).Nodup)
    (hann : ∀ d ∈ bs ++ s.extras, d.annotation ≠ "")
    (hflt : ∀ d ∈ bs ++ s.extras, d.hasBase = none → d.filtered = none) :
    C14.DefsOK (bs ++ s.extras) ∧
    ∀ d ∈ bs ++ s.extras, d.version ≠ "" →
      ∃ sch l,
        findSchemeClass (noRestrictionsClass :: ss) (some d.version) (some d.annotation) = .ok (some sch) ∧
        sch ∈ ss ∧ sch.version = d.version ∧ sch.annotation = d.annotation ∧
        sch.noRestrictions = false ∧
        Spec.layoutOf (bs ++ s.extras) d.annotation = some l ∧ sch.names = l.map (·.1) := by
  obtain ⟨_, ds, hds, hok, hall⟩ := resolves hload hcols hann
  cases hds.symm.trans (mapM_normalize_id hflt)
  exact ⟨hok, hall⟩

theorem registry_eq {tbl : ClassTable} {order : List Nat} {bs : List SchemeDef} {s : RegState}
    {tbl' : ClassTable} {ss : List Scheme}
    (hload : loadAll tbl order bs s.extras = .ok (tbl', ss)) :
    s.registry tbl order bs =
      { schemes := noRestrictionsClass :: ss,
        supportedVersions := (noRestrictionsClass :: ss).map (·.version),
        supportedAnnotations := (noRestrictionsClass :: ss).map (·.annotation) } := by
  unfold RegState.registry RegState.schemes
  rw [hload]

/-- `find_scheme` of the state's registry answers like `find_scheme_class` over the loaded
    list for a scheme that is not the pseudo-scheme -/
theorem registry_findScheme {tbl : ClassTable} {order : List Nat} {bs : List SchemeDef} {s : RegState}
    {tbl' : ClassTable} {ss : List Scheme}
    (hload : loadAll tbl order bs s.extras = .ok (tbl', ss)) {v a : Option Text} {sch : Scheme}
    (hf : findSchemeClass (noRestrictionsClass :: ss) (v.map String.ofList) (a.map String.ofList) =
      .ok (some sch)) (hnr : sch.noRestrictions = false) :
    (s.registry tbl order bs).findScheme v a = .ok (some sch) := by
  rw [registry_eq hload]
  unfold Registry.findScheme
  simp only [hf, hnr, Bool.false_eq_true, if_false]

/-- **C20.3, through the registry** — `find_scheme` of the state's registry, given the
    version and annotation of a registered definition as header text, returns its scheme.
    The side conditions of `resolves` are not needed to find the scheme, only for its layout. -/
theorem registry_finds {tbl : ClassTable} {order : List Nat} {bs : List SchemeDef} {s : RegState}
    {tbl' : ClassTable} {ss : List Scheme}
    (hload : loadAll tbl order bs s.extras = .ok (tbl', ss))
    {d : SchemeDef} (hd : d ∈ bs ++ s.extras) (hne1 : d.version ≠ "") (hne2 : d.annotation ≠ "")
    {v a : Option Text} (hv : v.map String.ofList = some d.version)
    (ha : a.map String.ofList = some d.annotation) :
    ∃ sch ∈ ss, (s.registry tbl order bs).findScheme v a = .ok (some sch) ∧
      sch.version = d.version ∧ sch.annotation = d.annotation := by
  obtain ⟨sch, hs, hsv, hsa, hnr⟩ := registered hload hd
  have hf := load_find hload hs (hsv ▸ hne1) (hsa ▸ hne2)
  rw [hsv, hsa, ← hv, ← ha] at hf
  exact ⟨sch, hs, registry_findScheme hload hf hnr, hsv, hsa⟩

/-! ## 4. a registered scheme is first-class for header validation -/

/-- what the registry supports, for the version (`f`, `g` the two `version` fields) and for the
    annotation alike: the pseudo-scheme's value and the values of the definitions -/
theorem supported_iff {tbl : ClassTable} {order : List Nat} {bs ex : List SchemeDef}
    {tbl' : ClassTable} {ss : List Scheme} (hload : loadAll tbl order bs ex = .ok (tbl', ss))
    (f : Scheme → String) (g : SchemeDef → String)
    (hfg : ∀ sch d, sch.version = d.version → sch.annotation = d.annotation → f sch = g d) (v : String) :
    v ∈ (noRestrictionsClass :: ss).map f ↔ v = f noRestrictionsClass ∨ ∃ d ∈ bs ++ ex, g d = v := by
  rw [List.map_cons, List.mem_cons, List.mem_map]
  apply or_congr_right
  constructor
  · rintro ⟨sch, hs, rfl⟩
    obtain ⟨d, hd, hv, ha, _⟩ := registered_origin hload hs
    exact ⟨d, hd, (hfg sch d hv ha).symm⟩
  · rintro ⟨d, hd, rfl⟩
    obtain ⟨sch, hs, hv, ha, _⟩ := registered hload hd
    exact ⟨sch, hs, hfg sch d hv ha⟩

theorem supported_versions_iff {tbl : ClassTable} {order : List Nat} {bs : List SchemeDef} {s : RegState}
    {tbl' : ClassTable} {ss : List Scheme}
    (hload : loadAll tbl order bs s.extras = .ok (tbl', ss)) (v : String) :
    v ∈ (s.registry tbl order bs).supportedVersions ↔
      v = "no-version" ∨ ∃ d ∈ bs ++ s.extras, d.version = v := by
  rw [registry_eq hload]
  exact supported_iff hload (·.version) (·.version) (fun _ _ h _ => h) v

theorem supported_annotations_iff {tbl : ClassTable} {order : List Nat} {bs : List SchemeDef} {s : RegState}
    {tbl' : ClassTable} {ss : List Scheme}
    (hload : loadAll tbl order bs s.extras = .ok (tbl', ss)) (a : String) :
    a ∈ (s.registry tbl order bs).supportedAnnotations ↔
      a = "no-annotation-specification" ∨ ∃ d ∈ bs ++ s.extras, d.annotation = a := by
  rw [registry_eq hload]
  exact supported_iff hload (·.annotation) (·.annotation) (fun _ _ _ h => h) a

/-- **no `HEADER_UNSUPPORTED_VERSION`** (nor `HEADER_MISSING_VERSION`) for a header whose
    version pragma names a definition of the state, built-in or extra.  No side conditions. -/
theorem version_accepted {tbl : ClassTable} {order : List Nat} {bs : List SchemeDef} {s : RegState}
    {tbl' : ClassTable} {ss : List Scheme}
    (hload : loadAll tbl order bs s.extras = .ok (tbl', ss))
    {d : SchemeDef} (hd : d ∈ bs ++ s.extras) (K : HConsts) {h : Header}
    (hv : (h.version K).map String.ofList = some d.version) :
    C13.versionErrs K (s.registry tbl order bs) h = [] := by
  obtain ⟨v, hver, hv⟩ := Option.map_eq_some_iff.1 hv
  simp only [C13.versionErrs, hver, hv, (supported_versions_iff hload _).2 (.inr ⟨d, hd, rfl⟩), if_true]

theorem annotationErrs_of_scheme {K : HConsts} {R : Registry} {h : Header} {sch : Scheme}
    (hsch : h.scheme K R = some sch) :
    C13.annotationErrs K R h =
      if sch.isBasic then
        (if (h.annotation K).isSome then [C13.headerErr "HEADER_UNSUPPORTED_ANNOTATION_SPEC"] else [])
      else match h.annotation K with
        | none => [C13.headerErr "HEADER_MISSING_ANNOTATION_SPEC"]
        | some a => if String.ofList a ∈ R.supportedAnnotations then []
                    else [C13.headerErr "HEADER_UNSUPPORTED_ANNOTATION_SPEC"] := by
  unfold C13.annotationErrs
  cases hb : sch.isBasic with
  | true => rw [if_pos ⟨sch, hsch, hb⟩]; rfl
  | false =>
    rw [if_neg]
    · rfl
    · rintro ⟨s', hs', hb'⟩
      cases hsch.symm.trans hs'
      exact absurd hb' (by rw [hb]; exact Bool.false_ne_true)

theorem header_scheme {tbl : ClassTable} {order : List Nat} {bs : List SchemeDef} {s : RegState}
    {tbl' : ClassTable} {ss : List Scheme}
    (hload : loadAll tbl order bs s.extras = .ok (tbl', ss))
    {d : SchemeDef} (hd : d ∈ bs ++ s.extras) (hne1 : d.version ≠ "") (hne2 : d.annotation ≠ "")
    (K : HConsts) {h : Header}
    (hv : (h.version K).map String.ofList = some d.version)
    (ha : (h.annotation K).map String.ofList = some d.annotation) :
    ∃ sch, h.scheme K (s.registry tbl order bs) = some sch ∧
      sch.version = d.version ∧ sch.annotation = d.annotation := by
  obtain ⟨sch, _, hf, hsv, hsa⟩ := registry_finds hload hd hne1 hne2 hv ha
  exact ⟨sch, by unfold Header.scheme; rw [hf], hsv, hsa⟩

/-- **no `HEADER_UNSUPPORTED_ANNOTATION_SPEC`** (nor `HEADER_MISSING_ANNOTATION_SPEC`) for a
    header whose version and annotation pragmas name a *non-basic* definition
    (`version ≠ annotation`) of the state, built-in or extra. -/
theorem annotation_accepted {tbl : ClassTable} {order : List Nat} {bs : List SchemeDef} {s : RegState}
    {tbl' : ClassTable} {ss : List Scheme}
    (hload : loadAll tbl order bs s.extras = .ok (tbl', ss))
    {d : SchemeDef} (hd : d ∈ bs ++ s.extras) (hne1 : d.version ≠ "") (hne2 : d.annotation ≠ "")
    (hnb : d.version ≠ d.annotation) (K : HConsts) {h : Header}
    (hv : (h.version K).map String.ofList = some d.version)
    (ha : (h.annotation K).map String.ofList = some d.annotation) :
    C13.annotationErrs K (s.registry tbl order bs) h = [] := by
  obtain ⟨sch, hsch, hsv, hsa⟩ := header_scheme hload hd hne1 hne2 K hv ha
  obtain ⟨a, hann, ha⟩ := Option.map_eq_some_iff.1 ha
  have hb : sch.isBasic = false := by
    unfold Scheme.isBasic; rw [hsv, hsa]; exact beq_eq_false_iff_ne.2 hnb
  simp only [annotationErrs_of_scheme hsch, hb, hann, ha,
    (supported_annotations_iff hload _).2 (.inr ⟨d, hd, rfl⟩), Bool.false_eq_true, if_false, if_true]

/-- what the model does with a *basic* definition (`version = annotation`), built-in or
    extra alike: a header that names it by both pragmas gets
    `HEADER_UNSUPPORTED_ANNOTATION_SPEC` — the rule "a basic scheme takes no annotation
    pragma" of `Header.validate` (`C13.annotation_rule`), not a registration defect:
    the annotation itself *is* supported (`supported_annotations_iff`). -/
theorem annotation_basic_with_pragma {tbl : ClassTable} {order : List Nat} {bs : List SchemeDef}
    {s : RegState} {tbl' : ClassTable} {ss : List Scheme}
    (hload : loadAll tbl order bs s.extras = .ok (tbl', ss))
    {d : SchemeDef} (hd : d ∈ bs ++ s.extras) (hne1 : d.version ≠ "")
    (hbasic : d.version = d.annotation) (K : HConsts) {h : Header}
    (hv : (h.version K).map String.ofList = some d.version)
    (ha : (h.annotation K).map String.ofList = some d.annotation) :
    C13.annotationErrs K (s.registry tbl order bs) h =
      [C13.headerErr "HEADER_UNSUPPORTED_ANNOTATION_SPEC"] := by
  obtain ⟨sch, hsch, hsv, hsa⟩ := header_scheme hload hd hne1 (hbasic ▸ hne1) K hv ha
  obtain ⟨a, hann, -⟩ := Option.map_eq_some_iff.1 ha
  have hb : sch.isBasic = true := by
    unfold Scheme.isBasic; rw [hsv, hsa, hbasic]; exact beq_self_eq_true _
  simp only [annotationErrs_of_scheme hsch, hb, hann, Option.isSome_some, if_true]

/-- a basic definition named the way basic schemes are meant to be named — version
    pragma only — gets no annotation error at all -/
theorem annotation_basic_without_pragma {tbl : ClassTable} {order : List Nat} {bs : List SchemeDef}
    {s : RegState} {tbl' : ClassTable} {ss : List Scheme}
    (hload : loadAll tbl order bs s.extras = .ok (tbl', ss))
    {d : SchemeDef} (hd : d ∈ bs ++ s.extras) (hne1 : d.version ≠ "")
    (hbasic : d.version = d.annotation) (K : HConsts) {h : Header}
    (hv : (h.version K).map String.ofList = some d.version)
    (ha : h.annotation K = none) :
    C13.annotationErrs K (s.registry tbl order bs) h = [] := by
  obtain ⟨sch, hs, hsv, hsa, hnr⟩ := registered hload hd
  have hf := C14.find_basic (RegistryLemmas.load_run hload).valid (List.mem_cons_of_mem _ hs) (hsv ▸ hne1)
    (by rw [hsv, hsa, hbasic]) none (.inl rfl)
  rw [hsv, ← hv] at hf
  have hsch : h.scheme K (s.registry tbl order bs) = some sch := by
    unfold Header.scheme
    rw [registry_findScheme hload (by rw [ha]; exact hf) hnr]
  have hb : sch.isBasic = true := by
    unfold Scheme.isBasic; rw [hsv, hsa, hbasic]; exact beq_self_eq_true _
  simp only [annotationErrs_of_scheme hsch, hb, ha, Option.isSome_none, Bool.false_eq_true, if_true, if_false]

/-- **C20.4** — header validation treats a registered definition exactly like a
    built-in one (the statement is uniform over `d ∈ bs ++ s.extras`).

    For a header whose version and annotation pragmas name a non-basic definition
    `d` of the state (`d.version ≠ d.annotation`, both non-empty), `Header.validate`
    against the state's registry adds *no* error: in particular neither
    `HEADER_UNSUPPORTED_VERSION` nor `HEADER_UNSUPPORTED_ANNOTATION_SPEC`; the error
    list is the old one (or empty after `reset`) and the outcome is `processErrors` of
    that list.

    The basic case (`d.version = d.annotation`) is `first_class_basic` (version pragma
    only: no error added) and `basic_with_annotation_pragma` (both pragmas: the model
    reports `HEADER_UNSUPPORTED_ANNOTATION_SPEC`, for built-ins and extras alike).
    The version half holds without any side condition (`version_accepted`). -/
theorem first_class {tbl : ClassTable} {order : List Nat} {bs : List SchemeDef} {s : RegState}
    {tbl' : ClassTable} {ss : List Scheme}
    (hload : loadAll tbl order bs s.extras = .ok (tbl', ss))
    {d : SchemeDef} (hd : d ∈ bs ++ s.extras) (hne1 : d.version ≠ "") (hne2 : d.annotation ≠ "")
    (hnb : d.version ≠ d.annotation) (K : HConsts) (h : Header)
    (hv : (h.version K).map String.ofList = some d.version)
    (ha : (h.annotation K).map String.ofList = some d.annotation)
    (mode : Option Mode) (reset : Bool) :
    let errs0 := if reset then [] else h.errors
    h.validate K (s.registry tbl order bs) mode reset =
      ({ h with errors := errs0 }, processErrors (mode.getD h.mode) errs0) := by
  intro errs0
  have := C13.validate_rules K (s.registry tbl order bs) h mode reset
  simp only [version_accepted hload hd K hv, annotation_accepted hload hd hne1 hne2 hnb K hv ha,
    List.append_nil] at this
  exact this

/-- **C20.4, basic definitions** — a header naming a basic definition of the state by
    its version pragma alone validates without any added error. -/
theorem first_class_basic {tbl : ClassTable} {order : List Nat} {bs : List SchemeDef} {s : RegState}
    {tbl' : ClassTable} {ss : List Scheme}
    (hload : loadAll tbl order bs s.extras = .ok (tbl', ss))
    {d : SchemeDef} (hd : d ∈ bs ++ s.extras) (hne1 : d.version ≠ "")
    (hbasic : d.version = d.annotation) (K : HConsts) (h : Header)
    (hv : (h.version K).map String.ofList = some d.version) (ha : h.annotation K = none)
    (mode : Option Mode) (reset : Bool) :
    let errs0 := if reset then [] else h.errors
    h.validate K (s.registry tbl order bs) mode reset =
      ({ h with errors := errs0 }, processErrors (mode.getD h.mode) errs0) := by
  intro errs0
  have := C13.validate_rules K (s.registry tbl order bs) h mode reset
  simp only [version_accepted hload hd K hv,
    annotation_basic_without_pragma hload hd hne1 hbasic K hv ha, List.append_nil] at this
  exact this

/-- **C20.4, the exception** — a header naming a basic definition by *both*
    pragmas gets exactly one added error, `HEADER_UNSUPPORTED_ANNOTATION_SPEC` (and no
    `HEADER_UNSUPPORTED_VERSION`); this is the same for built-in and registered basic
    definitions. -/
theorem basic_with_annotation_pragma {tbl : ClassTable} {order : List Nat} {bs : List SchemeDef}
    {s : RegState} {tbl' : ClassTable} {ss : List Scheme}
    (hload : loadAll tbl order bs s.extras = .ok (tbl', ss))
    {d : SchemeDef} (hd : d ∈ bs ++ s.extras) (hne1 : d.version ≠ "")
    (hbasic : d.version = d.annotation) (K : HConsts) (h : Header)
    (hv : (h.version K).map String.ofList = some d.version)
    (ha : (h.annotation K).map String.ofList = some d.annotation)
    (mode : Option Mode) (reset : Bool) :
    let errs := (if reset then [] else h.errors) ++ [C13.headerErr "HEADER_UNSUPPORTED_ANNOTATION_SPEC"]
    h.validate K (s.registry tbl order bs) mode reset =
      ({ h with errors := errs }, processErrors (mode.getD h.mode) errs) := by
  intro errs
  have := C13.validate_rules K (s.registry tbl order bs) h mode reset
  simp only [version_accepted hload hd K hv,
    annotation_basic_with_pragma hload hd hne1 hbasic K hv ha, List.append_nil] at this
  exact this

/-! ## 5. registering extras does not change the built-ins -/

/-- **declarative level** — a chain that resolves inside the built-ins resolves to the
    same layout when definitions are appended (no hypothesis on the extras: `findDef`
    takes the first definition of an annotation, and more fuel does not change a
    resolved layout). -/
theorem layout_unchanged {bs : List SchemeDef} (extras : List SchemeDef) {a : String}
    (hg : C14.grounded bs a) : Spec.layoutOf (bs ++ extras) a = Spec.layoutOf bs a := by
  cases hl : Spec.layoutOf bs a with
  | none => exact absurd hl hg
  | some l => exact RegistryLemmas.layoutOf_append extras hl

/-- the second reason given in `layout_unchanged` (`SchemeLemmas.resolve_mono`) -/
theorem resolve_fuel_mono (ds : List SchemeDef) {n m : Nat} (hnm : n ≤ m) {a : String} {l : Spec.Layout}
    (h : Spec.resolve ds n a = some l) : Spec.resolve ds m a = some l :=
  SchemeLemmas.resolve_mono ds hnm h

/-- the first reason: an annotation of `bs` is looked up in `bs` -/
theorem findDef_unchanged {bs : List SchemeDef} (extras : List SchemeDef) {a : String}
    (h : a ∈ bs.map (·.annotation)) : Spec.findDef (bs ++ extras) a = Spec.findDef bs a := by
  cases hf : Spec.findDef bs a with
  | none => exact absurd h (SchemeLemmas.findDef_eq_none.1 hf)
  | some d => exact RegistryLemmas.findDef_append_of_some extras hf

open RegistryLemmas in
/-- **C20.5** — the scheme of every built-in definition is the same with and without
    the extras.

    If the built-ins load on their own (`h0`: in particular every built-in's `extends`
    chain stays inside `bs`) and together with the extras (`h1`), then for every
    built-in `b` with a non-empty version, `find_scheme_class(b.version, b.annotation)`
    finds a scheme in both lists, and the two have the same column names, version and
    annotation.  Side conditions as in `resolves`: column names distinct within each
    definition, no empty annotation (distinct annotations are enforced by the load). -/
theorem builtins_unchanged {tbl : ClassTable} {order : List Nat} {bs extras : List SchemeDef}
    {tbl0 tbl1 : ClassTable} {ss0 ss1 : List Scheme}
    (h0 : loadAll tbl order bs [] = .ok (tbl0, ss0))
    (h1 : loadAll tbl order bs extras = .ok (tbl1, ss1))
    (hcols : ∀ d ∈ bs ++ extras, (d.columns.map (·.1)).Nodup)
    (hann : ∀ d ∈ bs ++ extras, d.annotation ≠ "")
    {b : SchemeDef} (hb : b ∈ bs) (hne : b.version ≠ "") :
    ∃ s0 s1,
      findSchemeClass (noRestrictionsClass :: ss0) (some b.version) (some b.annotation) = .ok (some s0) ∧
      findSchemeClass (noRestrictionsClass :: ss1) (some b.version) (some b.annotation) = .ok (some s1) ∧
      s0 ∈ ss0 ∧ s1 ∈ ss1 ∧
      s0.names = s1.names ∧ s0.version = s1.version ∧ s0.annotation = s1.annotation ∧
      s0.version = b.version ∧ s0.annotation = b.annotation := by
  have hbs : ∀ d ∈ bs ++ [], d ∈ bs ++ extras := fun d hd => List.mem_append_left _ (by simpa using hd)
  have hb1 := List.mem_append_left extras hb
  obtain ⟨s0, l0, hs0, hv0, ha0, _, hl0, hn0⟩ :=
    load_entry h0 (fun d hd => hcols d (hbs d hd)) (fun d hd => hann d (hbs d hd)) (d := b) (by simpa using hb)
  obtain ⟨s1, l1, hs1, hv1, ha1, _, hl1, hn1⟩ := load_entry h1 hcols hann hb1
  -- the built-ins' chains stay inside the built-ins, so the extras do not change their layouts
  rw [List.append_nil] at hl0
  rw [List.map_append, layoutOf_append _ hl0] at hl1
  cases hl1
  have hf0 := load_find h0 hs0 (hv0 ▸ hne) (ha0 ▸ hann b hb1)
  have hf1 := load_find h1 hs1 (hv1 ▸ hne) (ha1 ▸ hann b hb1)
  rw [hv0, ha0] at hf0
  rw [hv1, ha1] at hf1
  exact ⟨s0, s1, hf0, hf1, hs0, hs1, hn0.trans hn1.symm, hv0.trans hv1.symm, ha0.trans ha1.symm, hv0, ha0⟩

/-- **C20.5, as states** — the registry of a state with successfully registered extras
    and the registry of the initial state answer `find_scheme` for a built-in's
    `(version, annotation)` with schemes of the same layout, version and annotation. -/
theorem builtins_unchanged_registry {tbl : ClassTable} {order : List Nat} {bs : List SchemeDef}
    {s : RegState} {tbl0 tbl1 : ClassTable} {ss0 ss1 : List Scheme}
    (h0 : loadAll tbl order bs [] = .ok (tbl0, ss0))
    (h1 : loadAll tbl order bs s.extras = .ok (tbl1, ss1))
    (hcols : ∀ d ∈ bs ++ s.extras, (d.columns.map (·.1)).Nodup)
    (hann : ∀ d ∈ bs ++ s.extras, d.annotation ≠ "")
    {b : SchemeDef} (hb : b ∈ bs) (hne : b.version ≠ "") :
    ∃ s0 s1,
      (({} : RegState).registry tbl order bs).findScheme (some b.version.toList) (some b.annotation.toList)
        = .ok (some s0) ∧
      (s.registry tbl order bs).findScheme (some b.version.toList) (some b.annotation.toList)
        = .ok (some s1) ∧
      s0.names = s1.names ∧ s0.version = s1.version ∧ s0.annotation = s1.annotation := by
  obtain ⟨s0, s1, hf0, hf1, hs0, hs1, hn, hv, ha, hv0, ha0⟩ := builtins_unchanged h0 h1 hcols hann hb hne
  obtain ⟨_, _, _, _, hnr0⟩ := registered_origin h0 hs0
  obtain ⟨_, _, _, _, hnr1⟩ := registered_origin h1 hs1
  exact ⟨s0, s1, registry_findScheme (s := {}) h0 (by simpa using hf0) hnr0,
    registry_findScheme h1 (by simpa using hf1) hnr1, hn, hv, ha⟩

/-! ## non-vacuity: two built-ins, three registered extras -/
namespace Ex
open C14.Ex (tbl0 root child grand)

/-- the "built-ins": a basic scheme `v1` and a derived one `v1-x` -/
def bs0 : List SchemeDef := [root, child]

/-- a base-less extra definition with its own `filtered` list (needs normalisation) -/
def trimmed : SchemeDef :=
  { version := "v9", annotation := "v9-trim", base := none, filtered := some ["q"],
    columns := [("p", "StringColumn"), ("q", "StringColumn")] }
/-- a basic extra definition -/
def basicX : SchemeDef :=
  { version := "v7", annotation := "v7", base := none, filtered := none, columns := [("k", "StringColumn")] }

/-- `grand` extends the built-in `v1-x` -/
def extras1 : List SchemeDef := [grand, trimmed, basicX]

def s0 : RegState := {}
def s1 : RegState := (s0.register tbl0 [1, 0] bs0 extras1).1

/-- the registration call succeeds and registers the three definitions -/
theorem reg1_ok : (s0.register tbl0 [1, 0] bs0 extras1).2.toBool = true := by decide +kernel
theorem s1_extras : s1.extras = extras1 := (register_ok reg1_ok).1
theorem load0 : (loadAll tbl0 [1, 0] bs0 []).toBool = true := by decide +kernel
theorem load1 : (loadAll tbl0 [1, 0] bs0 s1.extras).toBool = true := by
  rw [s1_extras]; exact (register_ok reg1_ok).2

/-- the state `s1`, without the evaluation of the call behind it -/
theorem s1_eq : s1 = { extras := extras1 } := congrArg RegState.mk s1_extras

/-- the side conditions of `resolves` / `builtins_unchanged` hold -/
theorem hcols1 : ∀ d ∈ bs0 ++ s1.extras, (d.columns.map (·.1)).Nodup := by
  rw [s1_extras]; decide
theorem hann1 : ∀ d ∈ bs0 ++ s1.extras, d.annotation ≠ "" := by
  rw [s1_extras]; decide

/-- failing registrations leave the state unchanged (C20.2 on concrete calls):
    a second definition of the annotation `v1-x`, and an unknown column type -/
def dupAnn : SchemeDef :=
  { version := "v2", annotation := "v1-x", base := none, filtered := none, columns := [("c1", "StringColumn")] }
def badType : SchemeDef :=
  { version := "v3", annotation := "v3", base := none, filtered := none, columns := [("c1", "NoSuchColumn")] }
example : (s1.register tbl0 [1, 0] bs0 [dupAnn]).2 = .error .value ∧
    (s1.register tbl0 [1, 0] bs0 [dupAnn]).1.extras = s1.extras := by rw [s1_eq]; decide +kernel
example : (s1.register tbl0 [1, 0] bs0 [badType]).2 = .error .value ∧
    (s1.register tbl0 [1, 0] bs0 [badType]).1.extras = s1.extras := by rw [s1_eq]; decide +kernel
example : (s1.register tbl0 [1, 0] bs0 [dupAnn]).1 = s1 :=
  failed_registration_noop _ _ _ _ _ .value (by rw [s1_eq]; decide +kernel)

/-- the normalised definitions: only `trimmed` changes -/
theorem norm1 : (bs0 ++ s1.extras).mapM SchemeDef.normalize =
    some [root, child, grand, { trimmed with columns := [("p", "StringColumn")], filtered := none }, basicX] := by
  rw [s1_extras]; decide

/-- `resolves` for the state `s1`, with the normalised list of `norm1` put in -/
theorem resolves1 {d : SchemeDef} (hd : d ∈ bs0 ++ s1.extras) (hne : d.version ≠ "") :
    ∃ sch l, findSchemeClass (noRestrictionsClass :: s1.schemes tbl0 [1, 0] bs0)
        (some d.version) (some d.annotation) = .ok (some sch) ∧
      sch.version = d.version ∧ sch.annotation = d.annotation ∧
      Spec.layoutOf [root, child, grand, { trimmed with columns := [("p", "StringColumn")], filtered := none },
        basicX] d.annotation = some l ∧ sch.names = l.map (·.1) := by
  obtain ⟨⟨tbl', ss⟩, hload⟩ := RegistryLemmas.ok_of_toBool load1
  obtain ⟨hss, ds, hds, _, hall⟩ := resolves hload hcols1 hann1
  obtain ⟨sch, l, hf, _, hv, ha, _, hl, hn⟩ := hall d hd hne
  cases norm1.symm.trans hds
  exact ⟨sch, l, hss ▸ hf, hv, ha, hl, hn⟩

/-- `resolves` on the extra `grand` (derived from a built-in): found by
    `("v1", "v1-x-pub")`, layout `c2, c3` -/
example : ∃ sch, findSchemeClass (noRestrictionsClass :: s1.schemes tbl0 [1, 0] bs0)
      (some "v1") (some "v1-x-pub") = .ok (some sch) ∧
    sch.version = "v1" ∧ sch.annotation = "v1-x-pub" ∧ sch.names = ["c2", "c3"] := by
  obtain ⟨sch, l, hf, hv, ha, hl, hn⟩ := resolves1 (d := grand) (by rw [s1_extras]; decide) (by decide)
  cases hl.symm.trans (by decide : Spec.layoutOf _ grand.annotation = some
    [("c2", .mixed "RequireNullValue" (.named "StringColumn")), ("c3", .named "StringColumn")])
  exact ⟨sch, hf, hv, ha, hn⟩

/-- `resolves` on the extra `trimmed` (normalisation at work): layout `p` only -/
example : ∃ sch, findSchemeClass (noRestrictionsClass :: s1.schemes tbl0 [1, 0] bs0)
      (some "v9") (some "v9-trim") = .ok (some sch) ∧ sch.names = ["p"] := by
  obtain ⟨sch, l, hf, _, _, hl, hn⟩ := resolves1 (d := trimmed) (by rw [s1_extras]; decide) (by decide)
  cases hl.symm.trans (by decide : Spec.layoutOf _ trimmed.annotation = some [("p", .named "StringColumn")])
  exact ⟨sch, hf, hn⟩

/-- the side condition of `resolves_plain` fails for `extras1` (because of `trimmed`) and
    holds for a state with `grand` and `basicX` only -/
example : ¬ ∀ d ∈ bs0 ++ extras1, d.hasBase = none → d.filtered = none := by decide
def s2 : RegState := (s0.register tbl0 [1, 0] bs0 [grand, basicX]).1
theorem reg2_ok : (s0.register tbl0 [1, 0] bs0 [grand, basicX]).2.toBool = true := by decide +kernel
theorem s2_extras : s2.extras = [grand, basicX] := (register_ok reg2_ok).1
theorem load2 : (loadAll tbl0 [1, 0] bs0 s2.extras).toBool = true := by
  rw [s2_extras]; exact (register_ok reg2_ok).2
example : ∃ sch l, findSchemeClass (noRestrictionsClass :: s2.schemes tbl0 [1, 0] bs0)
      (some "v1") (some "v1-x-pub") = .ok (some sch) ∧
    Spec.layoutOf (bs0 ++ s2.extras) "v1-x-pub" = some l ∧ sch.names = l.map (·.1) := by
  obtain ⟨⟨tbl', ss⟩, hload⟩ := RegistryLemmas.ok_of_toBool load2
  obtain ⟨_, hall⟩ := resolves_plain hload (by rw [s2_extras]; decide) (by rw [s2_extras]; decide)
    (by rw [s2_extras]; decide)
  obtain ⟨sch, l, hf, _, _, _, _, hl, hn⟩ := hall grand (by rw [s2_extras]; decide) (by decide)
  have hss : s2.schemes tbl0 [1, 0] bs0 = ss := by unfold RegState.schemes; rw [hload]
  rw [hss]
  exact ⟨sch, l, hf, hl, hn⟩

/-- the supported lists of the state's registry, computed -/
example : (s1.registry tbl0 [1, 0] bs0).supportedVersions = ["no-version", "v1", "v1", "v1", "v9", "v7"] ∧
    (s1.registry tbl0 [1, 0] bs0).supportedAnnotations =
      ["no-annotation-specification", "v1", "v1-x", "v1-x-pub", "v9-trim", "v7"] := by
  rw [s1_eq]; decide +kernel

/-- headers naming the registered `grand` (non-basic), the registered basic `v7` by its
    version only, and `v7` by both pragmas -/
def hGrand : Header := C13.parsed K0 ["#version v1".toList, "#annotation.spec v1-x-pub".toList] .silent
def hBasic : Header := C13.parsed K0 ["#version v7".toList] .silent
def hBasic2 : Header := C13.parsed K0 ["#version v7".toList, "#annotation.spec v7".toList] .silent

example (mode : Option Mode) : hGrand.validate K0 (s1.registry tbl0 [1, 0] bs0) mode true =
    ({ hGrand with errors := [] }, processErrors (mode.getD hGrand.mode) []) := by
  obtain ⟨⟨tbl', ss⟩, hload⟩ := RegistryLemmas.ok_of_toBool load1
  exact first_class hload (d := grand) (by rw [s1_extras]; decide) (by decide) (by decide) (by decide)
    K0 hGrand (by decide) (by decide) mode true

example (mode : Option Mode) : hBasic.validate K0 (s1.registry tbl0 [1, 0] bs0) mode true =
    ({ hBasic with errors := [] }, processErrors (mode.getD hBasic.mode) []) := by
  obtain ⟨⟨tbl', ss⟩, hload⟩ := RegistryLemmas.ok_of_toBool load1
  exact first_class_basic hload (d := basicX) (by rw [s1_extras]; decide) (by decide) (by decide)
    K0 hBasic (by decide) (by decide) mode true

example : (hBasic2.validate K0 (s1.registry tbl0 [1, 0] bs0) none true).1.errors =
    [C13.headerErr "HEADER_UNSUPPORTED_ANNOTATION_SPEC"] := by
  obtain ⟨⟨tbl', ss⟩, hload⟩ := RegistryLemmas.ok_of_toBool load1
  rw [basic_with_annotation_pragma hload (d := basicX) (by rw [s1_extras]; decide) (by decide) (by decide)
    K0 hBasic2 (by decide) (by decide) none true]
  rfl

/-- the same header against the registry *before* the registration: both errors -/
example : (hGrand.validate K0 (s0.registry tbl0 [1, 0] bs0) none true).1.errors =
      [C13.headerErr "HEADER_UNSUPPORTED_ANNOTATION_SPEC"] ∧
    (hBasic.validate K0 (s0.registry tbl0 [1, 0] bs0) none true).1.errors =
      [C13.headerErr "HEADER_UNSUPPORTED_VERSION", C13.headerErr "HEADER_MISSING_ANNOTATION_SPEC"] := by
  decide +kernel

/-- the built-in `child` keeps its layout: hypotheses of `builtins_unchanged` hold, and
    the declarative layouts agree -/
example : ∀ b ∈ bs0, C14.grounded bs0 b.annotation := by decide
example : Spec.layoutOf (bs0 ++ extras1) "v1-x" = Spec.layoutOf bs0 "v1-x" :=
  layout_unchanged extras1 (by decide)
example : ∃ sa sb,
    (s0.registry tbl0 [1, 0] bs0).findScheme (some "v1".toList) (some "v1-x".toList) = .ok (some sa) ∧
    (s1.registry tbl0 [1, 0] bs0).findScheme (some "v1".toList) (some "v1-x".toList) = .ok (some sb) ∧
    sa.names = sb.names ∧ sa.version = sb.version ∧ sa.annotation = sb.annotation := by
  obtain ⟨⟨tbl0', ss0⟩, h0⟩ := RegistryLemmas.ok_of_toBool load0
  obtain ⟨⟨tbl1', ss1⟩, h1⟩ := RegistryLemmas.ok_of_toBool load1
  exact builtins_unchanged_registry h0 h1 hcols1 hann1 (b := child) (by decide) (by decide)

/-- why `h0` is a hypothesis: built-ins whose chain leaves `bs` do not load alone, even
    though they load together with an extra that supplies the base -/
example : (loadAll tbl0 [1, 0] [child] []).toBool = false ∧
    (loadAll tbl0 [1, 0] [child] [root]).toBool = true := by decide +kernel

end Ex

end C20
