/-
  C09 — reading enforces the declared order exactly.

  Statements about the model's `Checker.add` / `checkAll` (`MafModel/Model/SortOrder.lean`):
  `checkAll c rs = (yielded records, the error that stopped the iteration, if any)`.

  Vocabulary (from `Lemmas/SortOrderLemmas.lean`):
  * `Keyed o cs rs ks` — every record of `rs` is keyable and `ks` are the keys, in order;
  * `NotDesc a b := keyLt b a = .ok false` — "`b` is not smaller than `a`", the checker's test;
  * `AdjChain R l` — every two adjacent elements of `l` are related by `R`.

  (a), (b), (c), (d) need no well-formedness: they are stated with the actual results of `keyLt`.
  Well-formedness (`Loc.WF`) is what makes `keyLt` total and `≤` transitive (C08); it is used for
  the `Pairwise`/`keyLe` form of (a) and for the exhaustiveness theorem `sorted_or_first_descent`.

  (d) is about the records the checker cannot key (`KeyError` from the key function): the ones
  lacking a coordinate column AND the ones whose start / end position is a text that is not a
  number.  Both are skipped.
-/
import MafModel.Props.C08
open Py Model
namespace C09

variable {c : Checker} {rs : List Loc} {ks : List Key}

/-! ## (a) everything is yielded iff the keys are non-decreasing -/

theorem all_iff_chain (hs : c.order.sortable = true) (hl : c.last = none)
    (hk : Keyed c.order c.contigs rs ks) :
    checkAll c rs = (rs, none) ↔ AdjChain NotDesc ks := by
  rw [checkAll_eq_iff_none]
  cases rs with
  | nil =>
    cases ks with
    | nil => simp [checkAll]
    | cons k ks => exact hk.elim
  | cons r rs =>
    cases ks with
    | nil => exact hk.elim
    | cons k ks =>
      rw [checkAll_cons_ok rs (add_first hs hk.1 hl)]
      exact checkAll_some_iff (c := { c with last := some r }) hs rfl hk.1 hk.2

/-- a. For a sortable order and keyable records: the whole input is yielded without error iff
    no key is smaller than its predecessor. -/
theorem all_iff_sorted (hs : c.order.sortable = true) (hl : c.last = none)
    (hk : Keyed c.order c.contigs rs ks) :
    checkAll c rs = (rs, none) ↔
      ∀ i (h : i + 1 < ks.length), keyLt ks[i + 1] (ks[i]'(by omega)) = .ok false := by
  rw [all_iff_chain hs hl hk, adjChain_iff_getElem]
  rfl

/-- for keys of the invariant `keyLt` always answers, so "`= .ok false`" is "`≠ .ok true`" -/
theorem keyLt_false_iff_ne_true {r : Bool} {a b : Key} (ha : KeyInv r a) (hb : KeyInv r b) :
    keyLt b a = .ok false ↔ keyLt b a ≠ .ok true := by
  rw [hb.keyLt_eq ha]
  cases decide (Key.cmp b a < 0) <;> simp

/-- a. the same for well-formed records, with the literal "`¬ k_{i+1} < k_i`" -/
theorem all_iff_sorted_wf (hs : c.order.sortable = true) (hl : c.last = none)
    (hwf : ∀ r ∈ rs, r.WF) (hk : Keyed c.order c.contigs rs ks) :
    checkAll c rs = (rs, none) ↔
      ∀ i (h : i + 1 < ks.length), keyLt ks[i + 1] (ks[i]'(by omega)) ≠ .ok true := by
  rw [all_iff_sorted hs hl hk]
  have hinv := hk.inv hwf
  exact forall_congr' fun i => forall_congr' fun hi =>
    keyLt_false_iff_ne_true (hinv _ (List.getElem_mem _)) (hinv _ (List.getElem_mem _))

/-- a. for well-formed records "adjacent keys in order" is "all pairs in order" for the operator
    `≤`, by the transitivity proved in C08: the input is yielded completely iff its keys are sorted -/
theorem all_iff_pairwise_le (hs : c.order.sortable = true) (hl : c.last = none)
    (hwf : ∀ r ∈ rs, r.WF) (hk : Keyed c.order c.contigs rs ks) :
    checkAll c rs = (rs, none) ↔ ks.Pairwise (fun a b => keyLe a b = .ok true) := by
  rw [all_iff_chain hs hl hk]
  have hinv := hk.inv hwf
  have h1 : AdjChain NotDesc ks ↔ AdjChain (fun a b => keyLe a b = .ok true) ks := by
    rw [adjChain_iff_getElem, adjChain_iff_getElem]
    exact forall_congr' fun i => forall_congr' fun hi =>
      C08.not_lt_iff_le_inv (hinv _ (List.getElem_mem _)) (hinv _ (List.getElem_mem _))
  rw [h1]
  exact adjChain_iff_pairwise (P := KeyInv (!c.contigs.isEmpty))
    (fun _ _ _ ha hb hd h₁ h₂ => C08.le_trans_inv ha hb hd h₁ h₂) ks hinv

/-! ## (b) a first descent stops the iteration right there -/

/-- b. If the keys are non-decreasing up to position `i` and key `i+1` is smaller than key `i`,
    exactly the first `i+1` records are yielded and the iteration fails with `ValueError`. -/
theorem prefix_at_first_descent (hs : c.order.sortable = true) (hl : c.last = none)
    (hk : Keyed c.order c.contigs rs ks) (i : Nat) (hi : i + 1 < ks.length)
    (hsorted : ∀ j (hj : j < i), keyLt (ks[j + 1]'(by omega)) (ks[j]'(by omega)) = .ok false)
    (hdesc : keyLt ks[i + 1] (ks[i]'(by omega)) = .ok true) :
    checkAll c rs = (rs.take (i + 1), some .value) := by
  cases rs with
  | nil =>
    cases ks with
    | nil => simp at hi
    | cons k ks => exact hk.elim
  | cons r rs =>
    cases ks with
    | nil => exact hk.elim
    | cons k ks =>
      rw [checkAll_cons_ok rs (add_first hs hk.1 hl),
        checkAll_some_descent (c := { c with last := some r }) hs rfl hk.1 hk.2 i (by simpa using hi)
          hsorted hdesc]
      rfl

/-- b. (`prefix` is a Lean keyword, hence the quotes) -/
theorem «prefix» (hs : c.order.sortable = true) (hl : c.last = none)
    (hk : Keyed c.order c.contigs rs ks) (i : Nat) (hi : i + 1 < ks.length)
    (hsorted : ∀ j (hj : j < i), keyLt (ks[j + 1]'(by omega)) (ks[j]'(by omega)) = .ok false)
    (hdesc : keyLt ks[i + 1] (ks[i]'(by omega)) = .ok true) :
    checkAll c rs = (rs.take (i + 1), some .value) :=
  prefix_at_first_descent hs hl hk i hi hsorted hdesc

/-- (a)+(b) are exhaustive on well-formed keyable input: either the keys are sorted and all is
    yielded, or there is a first descent and the iteration stops there with `ValueError`.  In
    particular no other error (`TypeError`, `KeyError`) can come out. -/
theorem sorted_or_first_descent (hs : c.order.sortable = true) (hl : c.last = none)
    (hwf : ∀ r ∈ rs, r.WF) (hk : Keyed c.order c.contigs rs ks) :
    (ks.Pairwise (fun a b => keyLe a b = .ok true) ∧ checkAll c rs = (rs, none)) ∨
    ∃ i, ∃ hi : i + 1 < ks.length,
      (∀ j (hj : j < i), keyLt (ks[j + 1]'(by omega)) (ks[j]'(by omega)) = .ok false) ∧
      keyLt ks[i + 1] (ks[i]'(by omega)) = .ok true ∧
      checkAll c rs = (rs.take (i + 1), some .value) := by
  have hinv := hk.inv hwf
  rcases adjChain_or_first_descent NotDesc ks with h | ⟨i, hi, hsorted, hd⟩
  · have h' := (all_iff_chain hs hl hk).2 h
    exact .inl ⟨(all_iff_pairwise_le hs hl hwf hk).1 h', h'⟩
  · have hdesc : keyLt ks[i + 1] (ks[i]'(by omega)) = .ok true :=
      Classical.not_not.1 ((not_congr (keyLt_false_iff_ne_true
        (hinv _ (List.getElem_mem (by omega : i < ks.length)))
        (hinv _ (List.getElem_mem hi)))).1 hd)
    exact .inr ⟨i, hi, hsorted, hdesc, prefix_at_first_descent hs hl hk i hi hsorted hdesc⟩

/-! ## (c) an order that is not sortable is never enforced -/

/-- c. for `Unknown`/`Unsorted` every input is yielded completely, whatever it contains and
    whatever the checker remembered -/
theorem unsorted_never (c : Checker) (h : c.order.sortable = false) (rs : List Loc) :
    checkAll c rs = (rs, none) :=
  checkAll_unsortable c h rs

/-! ## (d) records that cannot be keyed are yielded, and neither cause nor mask an error

  "Cannot be keyed" = the key function raises `KeyError` (`Loc.unkeyable o cs l`,
  `Lemmas/SortOrderLemmas.lean`): a coordinate column is missing, OR — the chromosome being keyable —
  the start or end position is a text that is not a number (`unkeyable_iff`).  The checker skips
  exactly these records. -/

/-- d. which records the checker cannot key, on their own columns -/
theorem unkeyable_iff (o : Order) (cs : List Text) (l : Loc) :
    l.unkeyable o cs = true ↔
      l.hasCoords = false ∨
        ((cs = [] ∨ ∃ s, l.chrName = some s ∧ s ∈ cs) ∧
          (l.start.posOk = false ∨ l.stop.posOk = false)) :=
  Loc.unkeyable_iff.trans mkKey_keyError_iff

/-- d. in terms of the key function: `KeyError` -/
theorem unkeyable_iff_keyError (o : Order) (cs : List Text) (l : Loc) :
    l.unkeyable o cs = true ↔ mkKey o cs l = .error .key :=
  Loc.unkeyable_iff

/-- d. For every checker (any order, any remembered record) and every input, with
    `keyable r := !r.unkeyable c.order c.contigs` (the key function does not raise `KeyError`):
    1. the error (or its absence) is exactly that of the input restricted to the keyable records —
       un-keyable records (no coordinates, or a non-numeric position text) neither cause nor mask
       an ordering error;
    2. the records yielded, restricted to the keyable ones, are exactly the ones yielded from the
       restricted input;
    3. the yielded records are a prefix of the input (un-keyable records are yielded in place);
    4. without error the whole input is yielded;
    5. on error the yielded prefix ends right before a keyable record (the offending one) and the
       order is a sortable one: un-keyable records before it were all yielded. -/
theorem skip_unkeyable (c : Checker) (rs : List Loc) :
    (checkAll c rs).2 = (checkAll c (rs.filter (fun r => !r.unkeyable c.order c.contigs))).2 ∧
    (checkAll c rs).1.filter (fun r => !r.unkeyable c.order c.contigs) =
      (checkAll c (rs.filter (fun r => !r.unkeyable c.order c.contigs))).1 ∧
    (checkAll c rs).1 <+: rs ∧
    ((checkAll c rs).2 = none → (checkAll c rs).1 = rs) ∧
    (∀ e, (checkAll c rs).2 = some e →
      ∃ r rest, rs = (checkAll c rs).1 ++ r :: rest ∧ c.order.sortable = true ∧
        r.unkeyable c.order c.contigs = false) := by
  obtain ⟨h1, h2⟩ := checkAll_filter (fun r => !r.unkeyable c.order c.contigs) c
    (fun r hr => Loc.unkeyable_iff.1 (by simpa using hr)) rs
  refine ⟨h1, h2, checkAll_fst_prefix c rs, checkAll_fst_of_none c rs, fun e he => ?_⟩
  obtain ⟨r, rest, h1, h2, h3⟩ := checkAll_error_split_keyable c rs e he
  exact ⟨r, rest, h1, h2, Loc.unkeyable_false_iff.2 h3⟩

/-- a record on a chromosome that a supplied contig list does not name is REPORTED by the checker (`ValueError`), never
    skipped - also when its position texts are no numbers (the contig lookup comes first: of the two defects the
    unlisted chromosome wins; a record without a readable position is skipped only when its chromosome is known) -/
theorem unlisted_contig_reported (c : Checker) (hs : c.order.sortable = true) (l : Loc)
    (h0 : l.hasCoords = true) (hne : c.contigs ≠ []) (h : ∀ s, l.chrName = some s → s ∉ c.contigs) :
    c.add l = .error .value :=
  add_mkKey_error hs (mkKey_eq_error h0 hne h) (by simp)

/-- d. the special case of records without coordinate columns: the facts of `skip_unkeyable` with
    the filter "has its coordinate columns" in place of "can be keyed" -/
theorem skip_no_coords (c : Checker) (rs : List Loc) :
    (checkAll c rs).2 = (checkAll c (rs.filter (·.hasCoords))).2 ∧
    (checkAll c rs).1.filter (·.hasCoords) = (checkAll c (rs.filter (·.hasCoords))).1 ∧
    (checkAll c rs).1 <+: rs ∧
    ((checkAll c rs).2 = none → (checkAll c rs).1 = rs) ∧
    (∀ e, (checkAll c rs).2 = some e →
      ∃ r rest, rs = (checkAll c rs).1 ++ r :: rest ∧ r.hasCoords = true) := by
  obtain ⟨h1, h2⟩ := checkAll_filter (·.hasCoords) c (fun r hr => mkKey_no_coords hr) rs
  exact ⟨h1, h2, checkAll_fst_prefix c rs, checkAll_fst_of_none c rs, checkAll_error_split c rs⟩

/-- an un-keyable record leaves the checker untouched (in particular the remembered record), for a
    sortable order -/
theorem add_unkeyable (hs : c.order.sortable = true) (r : Loc)
    (h : r.unkeyable c.order c.contigs = true) : c.add r = .ok c :=
  add_skip_unkeyable hs (Loc.unkeyable_iff.1 h)

/-- ... and only an un-keyable record does: for a sortable order `add` leaves the checker
    untouched iff the record cannot be keyed — unless the record is the remembered one itself -/
theorem add_eq_self_iff (hs : c.order.sortable = true) (r : Loc) (hne : c.last ≠ some r) :
    c.add r = .ok c ↔ r.unkeyable c.order c.contigs = true := by
  constructor
  · intro ha
    cases hu : r.unkeyable c.order c.contigs with
    | true => rfl
    | false =>
      have := add_ok_of_keyable hs (Loc.unkeyable_false_iff.1 hu) ha
      have hl : c.last = some r := by rw [this]
      exact (hne hl).elim
  · exact add_unkeyable hs r

/-- a record without coordinates leaves the checker untouched -/
theorem add_no_coords (hs : c.order.sortable = true) (r : Loc) (h : r.hasCoords = false) :
    c.add r = .ok c := add_skip_unkeyable hs (mkKey_no_coords h)

/-- a record whose start or end position is a text that is not a number leaves the checker
    untouched when there is no contig list (or its chromosome is in the list): the iteration goes
    on -/
theorem add_bad_position (hs : c.order.sortable = true) (r : Loc)
    (hc : c.contigs = [] ∨ ∃ s, r.chrName = some s ∧ s ∈ c.contigs)
    (hp : r.start.posOk = false ∨ r.stop.posOk = false) : c.add r = .ok c :=
  add_unkeyable hs r ((unkeyable_iff _ _ r).2 (.inr ⟨hc, hp⟩))

/-- d+a. with un-keyable records interspersed: everything is yielded iff the keys of the records
    that can be keyed are non-decreasing -/
theorem all_iff_sorted_skip (hs : c.order.sortable = true) (hl : c.last = none)
    (hk : Keyed c.order c.contigs (rs.filter (fun r => !r.unkeyable c.order c.contigs)) ks) :
    checkAll c rs = (rs, none) ↔
      ∀ i (h : i + 1 < ks.length), keyLt ks[i + 1] (ks[i]'(by omega)) = .ok false := by
  rw [checkAll_eq_iff_none, (skip_unkeyable c rs).1, ← checkAll_eq_iff_none,
    all_iff_sorted hs hl hk]

/-- d+b. with un-keyable records interspersed: a first descent among the keyed records is reported
    as `ValueError`; the yielded records are a prefix of the input that contains exactly the first
    `i+1` keyed records and stops right before the offending record, which is a keyable one -/
theorem prefix_skip (hs : c.order.sortable = true) (hl : c.last = none)
    (hk : Keyed c.order c.contigs (rs.filter (fun r => !r.unkeyable c.order c.contigs)) ks)
    (i : Nat) (hi : i + 1 < ks.length)
    (hsorted : ∀ j (hj : j < i), keyLt (ks[j + 1]'(by omega)) (ks[j]'(by omega)) = .ok false)
    (hdesc : keyLt ks[i + 1] (ks[i]'(by omega)) = .ok true) :
    (checkAll c rs).2 = some .value ∧
    (checkAll c rs).1.filter (fun r => !r.unkeyable c.order c.contigs) =
      (rs.filter (fun r => !r.unkeyable c.order c.contigs)).take (i + 1) ∧
    ∃ r rest, rs = (checkAll c rs).1 ++ r :: rest ∧ r.unkeyable c.order c.contigs = false := by
  have h := prefix_at_first_descent hs hl hk i hi hsorted hdesc
  obtain ⟨h1, h2, -, -, h5⟩ := skip_unkeyable c rs
  rw [h] at h1 h2
  obtain ⟨r, rest, h6, -, h7⟩ := h5 _ h1
  exact ⟨h1, h2, r, rest, h6, h7⟩

/-! ## non-vacuity: concrete inputs -/

section examples

private def ck : Checker := { order := .coordinate, contigs := ["chr1".toList, "chr2".toList] }
private def l1 : Loc := { chr := .str "chr1".toList, start := .int 5, stop := .int 9 }
private def l2 : Loc := { chr := .str "chr1".toList, start := .str "10".toList, stop := .int 12 }
private def l3 : Loc := { chr := .str "chr2".toList, start := .int 1, stop := .int 2 }
private def noCoords : Loc := { hasCoords := false }
/-- start position `"abc"`: not a number -/
private def badPos : Loc := { chr := .str "chr1".toList, start := .str "abc".toList, stop := .int 12 }
/-- the same on a chromosome the contig list does not have -/
private def badPosX : Loc := { chr := .str "chrX".toList, start := .str "abc".toList, stop := .int 12 }
private def k1 : Key := { chr := .int 0, start := .int 5, stop := .int 9 }
private def k2 : Key := { chr := .int 0, start := .int 10, stop := .int 12 }
private def k3 : Key := { chr := .int 1, start := .int 1, stop := .int 2 }

/-- (a): a sorted, well-formed, keyable input meets every hypothesis, and is yielded completely -/
example : ck.order.sortable = true ∧ ck.last = none ∧ (∀ r ∈ [l1, l2, l3], r.WF) ∧
    Keyed ck.order ck.contigs [l1, l2, l3] [k1, k2, k3] ∧
    checkAll ck [l1, l2, l3] = ([l1, l2, l3], none) := by
  have hk : Keyed ck.order ck.contigs [l1, l2, l3] [k1, k2, k3] := by decide
  exact ⟨rfl, rfl, by decide, hk, (all_iff_sorted (c := ck) rfl rfl hk).2
    ((adjChain_iff_getElem NotDesc [k1, k2, k3]).1 (by decide))⟩

/-- (b): first descent at position 2 (`l1` after `l3`): two records yielded, then `ValueError` -/
example : checkAll ck [l2, l3, l1, l3] = ([l2, l3], some .value) :=
  prefix_at_first_descent (c := ck) (ks := [k2, k3, k1, k3]) rfl rfl (by decide) 1 (by decide)
    (by decide) (by decide)

/-- (c): a descent (`l1` after `l3`) and a record without coordinates pass under `Unsorted` -/
example : checkAll { order := .unsorted, contigs := [] } [l3, noCoords, l1] = ([l3, noCoords, l1], none) :=
  unsorted_never _ rfl _

/-- (d): records without coordinates are yielded and do not reset the remembered record: the
    descent `l3 … l1` is still detected across `noCoords` -/
example : checkAll ck [noCoords, l3, noCoords, l1] = ([noCoords, l3, noCoords], some .value) ∧
    checkAll ck [l3, l1] = ([l3], some .value) := by decide

example : checkAll ck [noCoords, l1, noCoords, l3] = ([noCoords, l1, noCoords, l3], none) :=
  (all_iff_sorted_skip (c := ck) (ks := [k1, k3]) rfl rfl (by decide)).2
    ((adjChain_iff_getElem NotDesc [k1, k3]).1 (by decide))

/-- (d): a record with a non-numeric position text is un-keyable (it HAS its coordinate columns),
    is yielded, does not stop the iteration and does not reset the remembered record -/
example : badPos.hasCoords = true ∧ badPos.unkeyable ck.order ck.contigs = true ∧
    ck.add badPos = .ok ck ∧
    checkAll ck [l1, badPos, l3] = ([l1, badPos, l3], none) ∧
    checkAll ck [badPos, l3, badPos, l1] = ([badPos, l3, badPos], some .value) := by
  refine ⟨rfl, by decide, add_bad_position (c := ck) rfl badPos
    (.inr ⟨"chr1".toList, by decide, by decide⟩) (.inl (by decide)), ?_, by decide⟩
  exact (all_iff_sorted_skip (c := ck) (ks := [k1, k3]) rfl rfl (by decide)).2
    ((adjChain_iff_getElem NotDesc [k1, k3]).1 (by decide))

/-- (d): the contig lookup comes before the positions: on a chromosome the contig list does not
    have, the same record is keyable-and-failing (`ValueError`), not skipped -/
example : badPosX.unkeyable ck.order ck.contigs = false ∧
    checkAll ck [l1, badPosX, l3] = ([l1], some .value) := by decide

end examples

end C09
