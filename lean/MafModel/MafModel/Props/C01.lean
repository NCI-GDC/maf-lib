/-
  C01 — Validation accepts exactly the lines that conform to the scheme.

  The operational model is `Model.ColSpec.accept` (what `MafRecord.from_line` does
  with one field: build with the scheme's class, keep the column only if it
  validates with zero errors) over the class record resolved from the *generated*
  class table; the specification is the flat `Spec.specBuild`.
-/
import MafModel.Lemmas.Builtin
open Model Py Spec

namespace C01

/-- **Tie to the source (regenerated every run).**  Every column of every
    built-in layout — built by the model of `build_schemes` from the generated
    scheme definitions, with classes resolved by C3 over the generated class
    table — sits at the position the documented layout gives it and resolves to
    the class record the field theorems below are about. -/
theorem builtins_resolve : Builtin.builtinsOK = true := by decide +kernel

/-- every named column type of the generated class table resolves to its expected record -/
theorem named_resolve :
    Expected.named.all (fun p => (resolveSpec Generated.classTable p.1).map ColSpec.erase == some p.2) = true := by
  decide +kernel

/-- **Acceptance = domain, value = denotation (all texts, all column types).**
    A field is accepted by the operational model exactly when it lies in the
    documented domain of its column type, and the accepted column carries the
    typed value the text denotes. -/
theorem field_accept_eq_spec (C : Ctx) (ty : ColType) (sp : ColSpec) (t : Text)
    (h : Builtin.expectedOf ty = some sp) :
    sp.accept C false t = specBuild ⟨C.enums, C.H⟩ ty t :=
  Builtin.field_accept C ty sp t h

theorem field_accept_iff_domain (C : Ctx) (ty : ColType) (sp : ColSpec) (t : Text)
    (h : Builtin.expectedOf ty = some sp) :
    (sp.accept C false t).isSome = inDomain ⟨C.enums, C.H⟩ ty t := by
  rw [field_accept_eq_spec C ty sp t h]; rfl

/-- a field outside its domain is never exposed as a value -/
theorem field_reject (C : Ctx) (ty : ColType) (sp : ColSpec) (t : Text)
    (h : Builtin.expectedOf ty = some sp)
    (hout : inDomain ⟨C.enums, C.H⟩ ty t = false) : sp.accept C false t = none := by
  have := field_accept_iff_domain C ty sp t h
  rw [hout] at this
  cases hs : sp.accept C false t with
  | none => rfl
  | some v => rw [hs] at this; simp at this

/-- the class record resolved from the tables, for a class of the extended table -/
theorem accept_of_resolved (C : Ctx) (cls : String) (sp : ColSpec) (ty : ColType) (t : Text)
    (hr : (resolveSpec C.tbl cls).map ColSpec.erase = Builtin.expectedOf ty)
    (hs : resolveSpec C.tbl cls = some sp) :
    sp.accept C false t = specBuild ⟨C.enums, C.H⟩ ty t := by
  rw [hs] at hr
  simp at hr
  rw [← Builtin.accept_erase]
  exact field_accept_eq_spec C ty sp.erase t hr.symm

/-! Non-vacuity: concrete column types meet the hypotheses, and the theorem
    decides concrete texts both ways. -/
example : Builtin.expectedOf (.named "NullableZeroBasedIntegerColumn") = some Expected.NullableZeroBasedIntegerColumn := by decide
example : Builtin.expectedOf (.mixed "RequireNullValue" (.named "NullableDnaString")) ≠ none := by decide
example : inDomain ⟨Generated.enums, ⟨fun _ => none⟩⟩ (.named "OneBasedIntegerColumn") "7".toList = true := by decide
example : inDomain ⟨Generated.enums, ⟨fun _ => none⟩⟩ (.named "OneBasedIntegerColumn") "0".toList = false := by decide
example : inDomain ⟨Generated.enums, ⟨fun _ => none⟩⟩ (.mixed "RequireNullValue" (.named "NullableDnaString")) "ACGT".toList = false := by decide
example : inDomain ⟨Generated.enums, ⟨fun _ => none⟩⟩ (.named "VariantType") "SNP".toList = true := by decide

end C01
