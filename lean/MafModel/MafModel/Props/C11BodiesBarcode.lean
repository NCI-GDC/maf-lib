/-
  C11 — `LocatableOverlapIterator.__overlaps_with_barcode`, translated and interpreted: the same barcode pair and
  `__overlaps` (a call through `cls`), for all keys.  Exploring the whole tree at once means 3⁶ combinations of key
  kinds; instead the callee is known at any sufficient fuel (`C11Bodies.overlaps_call`), the call expression is peeled
  around it (`call_shape`, `call_eval`), each compared attribute is one small tree (`tumor_eval`, `normal_eval`), and a
  lemma about the interpreter's `and` chain (`and3_eval`) puts the three operands together.
-/
import MafModel.Props.C11Bodies
open Py PyIR Bodies Model

namespace C11Bodies

def env3 (a b : Val) : Env := [("cls", Val.cls L), ("min_key", a), ("cur_key", b)]
def callE : Expr := Expr.method (.name "cls") "_LocatableOverlapIterator__overlaps" [.name "min_key", .name "cur_key"]

theorem call_shape (H : Host) (n : Nat) (a b : Val) :
    ∃ (Ka : Except PyErr (Val × Env) → Tree (Except PyErr (Val × Option Val))) (Kb : Except PyErr (Val × Option Val) → Tree (Except PyErr Val)),
      evalExpr Generated.Bodies.program H (n + 22) (env3 a b) callE
        = Tree.bind (Tree.bind (callFn Generated.Bodies.program H (n + 20) ovFn [.cls L, a, b]) Ka) Kb
      ∧ (∀ r, Ka (.ok r) = M.ok (r.1, Option.none)) ∧ (∀ x, Kb (.ok x) = M.ok x.1) :=
  ⟨_, _, rfl, fun _ => rfl, fun _ => rfl⟩

/-- the call `cls.__overlaps(min_key, cur_key)` inside the other predicate -/
theorem call_eval (H : Host) (n : Nat) (tb nb tb' nb' c d : KV) (s e s' e' : Int) :
    Tree.eval H (evalExpr Generated.Bodies.program H (n + 22) (env3 (barcodeKey tb nb c s e) (barcodeKey tb' nb' d s' e')) callE)
      = .ok (.bool (decide (c = d) && decide (s ≤ s') && decide (s' ≤ e))) := by
  obtain ⟨Ka, Kb, hK, hKa, hKb⟩ := call_shape H n (barcodeKey tb nb c s e) (barcodeKey tb' nb' d s' e')
  have hc := overlaps_call H n tb nb tb' nb' c d s e s' e'
  cases hr : Tree.eval H (callFn Generated.Bodies.program H (n + 20) ovFn [.cls L, barcodeKey tb nb c s e, barcodeKey tb' nb' d s' e']) with
  | error err => rw [hr] at hc; cases hc
  | ok r =>
    have hv : r.1 = .bool (decide (c = d) && decide (s ≤ s') && decide (s' ≤ e)) := by
      rw [hr] at hc; simpa [Except.map] using hc
    refine (Tree.eval_of_bind hK (Tree.eval_of_bind rfl hr)).trans ?_
    rw [hKa, show Tree.eval H (M.ok (r.1, (Option.none : Option Val))) = .ok (r.1, Option.none) from rfl, hKb, hv]
    rfl

/-- the interpreter's `and` chain over three operands that evaluate to Booleans -/
theorem and3_eval (H : Host) (ev : Expr → M Val) (e1 e2 e3 : Expr) (b1 b2 b3 : Bool)
    (h1 : Tree.eval H (ev e1) = .ok (.bool b1)) (h2 : Tree.eval H (ev e2) = .ok (.bool b2)) (h3 : Tree.eval H (ev e3) = .ok (.bool b3)) :
    Tree.eval H (andLoop ev [e1, e2, e3]) = .ok (.bool (b1 && b2 && b3)) := by
  simp only [andLoop, M.bind]
  erw [Tree.eval_bind, h1]
  cases b1
  · rfl
  · show Tree.eval H (Tree.bind (ev e2) _) = _
    erw [Tree.eval_bind, h2]
    cases b2
    · rfl
    · show Tree.eval H (ev e3) = _
      rw [h3]; rfl

def tumorE : Expr := ((Expr.name "min_key").attr "tumor_barcode").cmp [(CmpOp.eq, (Expr.name "cur_key").attr "tumor_barcode")]
def normalE : Expr := ((Expr.name "min_key").attr "normal_barcode").cmp [(CmpOp.eq, (Expr.name "cur_key").attr "normal_barcode")]

set_option hygiene false in
macro "fin2" : tactic => `(tactic| (tree_leaf; first | rfl | (simp_all [Query.holds]; done) | (simp_all [Query.holds, eq_comm]; done)))

set_option hygiene false in
macro "kvwalk" : tactic => `(tactic| (
  cases x with
  | none => cases y with
    | none => fin2
    | int j => fin2
    | str t => fin2
  | int i => cases y with
    | none => fin2
    | int j =>
      ask_split hq
      · fin2
      · fin2
    | str t => fin2
  | str u => cases y with
    | none => fin2
    | int j => fin2
    | str t =>
      ask_split hq
      · fin2
      · fin2))

set_option smartUnfolding false in
theorem tumor_eval (H : Host) (n : Nat) (x nb y nb' c d : KV) (s e s' e' : Int) :
    Tree.eval H (evalExpr Generated.Bodies.program H (n + 22) (env3 (barcodeKey x nb c s e) (barcodeKey y nb' d s' e')) tumorE)
      = .ok (.bool (decide (x = y))) := by
  refine Tree.Forall.eval (H := H) (t := evalExpr Generated.Bodies.program H (n + 22) (env3 (barcodeKey x nb c s e) (barcodeKey y nb' d s' e')) tumorE)
    (P := fun r => r = .ok (.bool (decide (x = y)))) ?_
  kvwalk

set_option smartUnfolding false in
theorem normal_eval (H : Host) (n : Nat) (tb x tb' y c d : KV) (s e s' e' : Int) :
    Tree.eval H (evalExpr Generated.Bodies.program H (n + 22) (env3 (barcodeKey tb x c s e) (barcodeKey tb' y d s' e')) normalE)
      = .ok (.bool (decide (x = y))) := by
  refine Tree.Forall.eval (H := H) (t := evalExpr Generated.Bodies.program H (n + 22) (env3 (barcodeKey tb x c s e) (barcodeKey tb' y d s' e')) normalE)
    (P := fun r => r = .ok (.bool (decide (x = y)))) ?_
  kvwalk

def andE : Expr := Expr.and [tumorE, normalE, callE]
def owbFn : FnDef := Generated.Bodies.LocatableOverlapIterator___LocatableOverlapIterator__overlaps_with_barcode

theorem and_eval (H : Host) (n : Nat) (tb nb tb' nb' c d : KV) (s e s' e' : Int) :
    Tree.eval H (evalExpr Generated.Bodies.program H (n + 23) (env3 (barcodeKey tb nb c s e) (barcodeKey tb' nb' d s' e')) andE)
      = .ok (.bool (decide (tb = tb') && decide (nb = nb') && (decide (c = d) && decide (s ≤ s') && decide (s' ≤ e)))) := by
  show Tree.eval H (andLoop (evalExpr Generated.Bodies.program H (n + 22) (env3 (barcodeKey tb nb c s e) (barcodeKey tb' nb' d s' e'))) [tumorE, normalE, callE]) = _
  exact and3_eval H _ tumorE normalE callE _ _ _ (tumor_eval H n tb nb tb' nb' c d s e s' e') (normal_eval H n tb nb tb' nb' c d s e s' e')
    (call_eval H n tb nb tb' nb' c d s e s' e')

/-- `__overlaps_with_barcode` on two barcode keys: the same tumor and normal barcode, and `__overlaps` -/
theorem overlaps_with_barcode_eq (H : Host) (tb nb tb' nb' c d : KV) (s e s' e' : Int) :
    overlapsBarcodeRun H (barcodeKey tb nb c s e) (barcodeKey tb' nb' d s' e')
      = .ok (.bool (decide (tb = tb') && decide (nb = nb') && (decide (c = d) && decide (s ≤ s') && decide (s' ≤ e)))) := by
  have hb : Tree.eval H (execStmts Generated.Bodies.program H (38 + 25)
      (env3 (barcodeKey tb nb c s e) (barcodeKey tb' nb' d s' e')) owbFn.body) = _ :=
    Tree.eval_of_bind rfl (Tree.eval_of_bind rfl (and_eval H 38 tb nb tb' nb' c d s e s' e'))
  exact congrArg (Except.map fun x : Val × Env => x.1) (run_of_body rfl rfl hb)

/-- the model's reading of a barcode key: tumor barcode, normal barcode, chromosome component, start, end -/
def barcodeOps : OvOps (KV × KV × KV × Int × Int) where
  lt := fun _ _ => false
  same := fun a b => decide (a.1 = b.1) && decide (a.2.1 = b.2.1) && decide (a.2.2.1 = b.2.2.1)
  start := fun a => a.2.2.2.1
  stop := fun a => a.2.2.2.2

/-- ... which is the model's `overlapsHead` with barcode grouping (same barcode pair and chromosome, then the interval
    test against the widened end of the running minimum) -/
theorem overlaps_with_barcode_eq_overlapsHead (H : Host) (lo cur : KV × KV × KV × Int × Int) (hi : Int) :
    overlapsBarcodeRun H (barcodeKey lo.1 lo.2.1 lo.2.2.1 lo.2.2.2.1 hi) (barcodeKey cur.1 cur.2.1 cur.2.2.1 cur.2.2.2.1 cur.2.2.2.2)
      = .ok (.bool (overlapsHead barcodeOps lo hi cur)) := by
  rw [overlaps_with_barcode_eq]
  congr 2
  simp only [overlapsHead, barcodeOps, Bool.and_assoc]

end C11Bodies
