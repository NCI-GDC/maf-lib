/-
  C06 (and the write side of C04 / C05) — the `__validate__` hook bodies of `maflib/column_types.py`, *translated from the source on
  every run* (`Generated/Bodies.lean`, PyIR terms) and interpreted, equal the hand-written model (`Model.runValidate`
  over the regenerated class table) for every value of the model's universe.

  Left side: the PyIR interpreter runs the body Python would run — method resolution through the translated MRO,
  `self.__min_value__()` / `self.__enum_class__()` dispatched on the instance's class, `super(C, self).__validate__()`.
  Right side: the model's own C3 linearisation, hook chains and per-class bodies.  A semantic change to a translated
  body, to a class's bases or to a constant hook breaks these equalities whatever inputs the generators produce.

  On a value whose payload the body does not inspect both sides evaluate to the same verdict (`rfl`).  Where it does
  (an integer against `self.__min_value__()`, an enum member against `self.__enum_class__()`, the emptiness of a text)
  the run is one test with constant outcomes: `Bodies.hookInvalid_test`; `TranscriptStrand` has two tests and walks its
  tree (`Bodies.hookInvalid_of_forall`).

  The hooks that iterate (`NullableDnaString`, `DnaString`) are in `C06BodiesDna`; `SequenceOfValuesColumn` and its
  sub-classes are not covered (DESIGN.md): they stay tied by differential execution only.
-/
import MafModel.Lemmas.BodiesRun
open Py PyIR Bodies

namespace C06Bodies

-- Evaluating a run means unfolding the fuel-recursive interpreter some thousand times.  With smart unfolding `whnf`
-- does each step through the `match`-compiled auxiliary definitions; plain delta/iota reduction, which is what the
-- kernel does, is about thirty times cheaper here and stays inside the default heartbeat limit.
set_option smartUnfolding false

/-! ### type tests only -/

theorem validate_MafCustomColumnRecord (fp) : ∀ v : PyVal, hookInvalid fp "MafCustomColumnRecord" (emb v) = modelInvalid "MafCustomColumnRecord" v := by hook_rfl
theorem validate_RequireNullValue (fp) : ∀ v : PyVal, hookInvalid fp "RequireNullValue" (emb v) = modelInvalid "RequireNullValue" v := by hook_rfl
theorem validate_NullableStringColumn (fp) : ∀ v : PyVal, hookInvalid fp "NullableStringColumn" (emb v) = modelInvalid "NullableStringColumn" v := by hook_rfl
theorem validate_StringOrIntegerColumn (fp) : ∀ v : PyVal, hookInvalid fp "StringOrIntegerColumn" (emb v) = modelInvalid "StringOrIntegerColumn" v := by hook_rfl
theorem validate_StringIntegerOrFloatColumn (fp) : ∀ v : PyVal, hookInvalid fp "StringIntegerOrFloatColumn" (emb v) = modelInvalid "StringIntegerOrFloatColumn" v := by hook_rfl
theorem validate_FloatColumn (fp) : ∀ v : PyVal, hookInvalid fp "FloatColumn" (emb v) = modelInvalid "FloatColumn" v := by hook_rfl
theorem validate_NullableFloatColumn (fp) : ∀ v : PyVal, hookInvalid fp "NullableFloatColumn" (emb v) = modelInvalid "NullableFloatColumn" v := by hook_rfl
theorem validate_Canonical (fp) : ∀ v : PyVal, hookInvalid fp "Canonical" (emb v) = modelInvalid "Canonical" v := by hook_rfl
theorem validate_BooleanColumn (fp) : ∀ v : PyVal, hookInvalid fp "BooleanColumn" (emb v) = modelInvalid "BooleanColumn" v := by hook_rfl
theorem validate_UUIDColumn (fp) : ∀ v : PyVal, hookInvalid fp "UUIDColumn" (emb v) = modelInvalid "UUIDColumn" v := by hook_rfl
theorem validate_NullableUUIDColumn (fp) : ∀ v : PyVal, hookInvalid fp "NullableUUIDColumn" (emb v) = modelInvalid "NullableUUIDColumn" v := by hook_rfl
/-- no bound: `IntegerColumn.__min_value__` / `__max_value__` return `None` -/
theorem validate_IntegerColumn (fp) : ∀ v : PyVal, hookInvalid fp "IntegerColumn" (emb v) = modelInvalid "IntegerColumn" v := by hook_rfl
theorem validate_NullableIntegerColumn (fp) : ∀ v : PyVal, hookInvalid fp "NullableIntegerColumn" (emb v) = modelInvalid "NullableIntegerColumn" v := by hook_rfl

/-! ### one test on the payload -/

/-- integer ranges: the bound `lo` comes from `self.__min_value__()`, resolved on the instance's class; `|| false` is the
    model's test against the upper bound, which none of these classes has -/
theorem hookInvalid_intMin {fp K D lo a b} {i : Int} (hD : validateDefiner K = some D)
    (ht : runTree Generated.Bodies.program (host fp) D "__validate__" [colObj K (.int i)]
      = .ask (.intLt i lo) (.done a) (.done b))
    (ha : a.map (fun r => !r.1.isNone) = .ok true) (hb : b.map (fun r => !r.1.isNone) = .ok false)
    (hm : modelInvalid K (.atom (.int i)) = .ok (decide (i < lo) || false)) :
    hookInvalid fp K (.int i) = modelInvalid K (.atom (.int i)) :=
  hookInvalid_test hD ht <| by
    rw [hm, ha, hb]
    show _ = if decide (i < lo) = true then _ else _
    cases decide (i < lo) <;> rfl

theorem validate_OneBasedIntegerColumn (fp) : ∀ v : PyVal, hookInvalid fp "OneBasedIntegerColumn" (emb v) = modelInvalid "OneBasedIntegerColumn" v := by
  hook_int fun i => hookInvalid_intMin (lo := 1) rfl rfl rfl rfl rfl
theorem validate_ZeroBasedIntegerColumn (fp) : ∀ v : PyVal, hookInvalid fp "ZeroBasedIntegerColumn" (emb v) = modelInvalid "ZeroBasedIntegerColumn" v := by
  hook_int fun i => hookInvalid_intMin (lo := 0) rfl rfl rfl rfl rfl
theorem validate_NullableOneBasedIntegerColumn (fp) : ∀ v : PyVal, hookInvalid fp "NullableOneBasedIntegerColumn" (emb v) = modelInvalid "NullableOneBasedIntegerColumn" v := by
  hook_int fun i => hookInvalid_intMin (lo := 1) rfl rfl rfl rfl rfl
theorem validate_NullableZeroBasedIntegerColumn (fp) : ∀ v : PyVal, hookInvalid fp "NullableZeroBasedIntegerColumn" (emb v) = modelInvalid "NullableZeroBasedIntegerColumn" v := by
  hook_int fun i => hookInvalid_intMin (lo := 0) rfl rfl rfl rfl rfl
theorem validate_EntrezGeneId (fp) : ∀ v : PyVal, hookInvalid fp "EntrezGeneId" (emb v) = modelInvalid "EntrezGeneId" v := by
  hook_int fun i => hookInvalid_intMin (lo := 0) rfl rfl rfl rfl rfl

-- the enum-valued case of class `K` whose `__enum_class__` is `E`
set_option hygiene false in
macro "enum_case" K:str E:str : tactic => `(tactic| (
  rw [show modelInvalid $K (.atom (.enum c m)) = .ok (c != $E) from rfl]
  refine Tree.Forall.eval (H := host fp) (t := runTree Generated.Bodies.program (host fp) "EnumColumn" "__validate__" [colObj $K (.enum c m)])
    (P := fun (r : Except PyErr (Val × Env)) => Except.map (fun r => !r.1.isNone) r = Except.ok (c != $E)) ?_
  tree_split h
  · tree_leaf
    have hc : c = $E := ((beq_iff_eq (a := $E) (b := c)).1 h).symm
    subst hc; rfl
  · tree_leaf
    have hc : (c != $E) = true := by
      have h' : ($E == c) = false := h
      simp only [bne, Bool.not_eq_true', beq_eq_false_iff_ne, ne_eq] at h' ⊢
      exact fun e => h' e.symm
    rw [hc]; rfl))

/-- enumerated columns: `isinstance(self.value, self.__enum_class__())`, the enum class `E` being a constant hook of the
    instance's class -/
theorem hookInvalid_enum {fp K D E a b} {c m : String} (hD : validateDefiner K = some D)
    (ht : runTree Generated.Bodies.program (host fp) D "__validate__" [colObj K (.enum c m)]
      = .ask (.nameEq E c) (.done a) (.done b))
    (ha : a.map (fun r => !r.1.isNone) = .ok false) (hb : b.map (fun r => !r.1.isNone) = .ok true)
    (hm : modelInvalid K (.atom (.enum c m)) = .ok (c != E)) :
    hookInvalid fp K (.enum c m) = modelInvalid K (.atom (.enum c m)) :=
  hookInvalid_test hD ht <| by
    rw [hm, ha, hb]
    show _ = if (E == c) = true then _ else _
    rw [bne, BEq.comm]
    cases E == c <;> rfl

theorem validate_NullableYesOrNo (fp) : ∀ v : PyVal, hookInvalid fp "NullableYesOrNo" (emb v) = modelInvalid "NullableYesOrNo" v := by
  hook_enum fun c m => hookInvalid_enum (E := "NullableYesOrNoEnum") rfl rfl rfl rfl rfl
theorem validate_NullableYOrN (fp) : ∀ v : PyVal, hookInvalid fp "NullableYOrN" (emb v) = modelInvalid "NullableYOrN" v := by
  hook_enum fun c m => hookInvalid_enum (E := "NullableYOrNEnum") rfl rfl rfl rfl rfl
theorem validate_YesNoOrUnknown (fp) : ∀ v : PyVal, hookInvalid fp "YesNoOrUnknown" (emb v) = modelInvalid "YesNoOrUnknown" v := by
  hook_enum fun c m => hookInvalid_enum (E := "YesNoOrUnknownEnum") rfl rfl rfl rfl rfl
theorem validate_PickColumn (fp) : ∀ v : PyVal, hookInvalid fp "PickColumn" (emb v) = modelInvalid "PickColumn" v := by
  hook_enum fun c m => hookInvalid_enum (E := "PickEnum") rfl rfl rfl rfl rfl
theorem validate_Strand (fp) : ∀ v : PyVal, hookInvalid fp "Strand" (emb v) = modelInvalid "Strand" v := by
  hook_enum fun c m => hookInvalid_enum (E := "StrandEnum") rfl rfl rfl rfl rfl
theorem validate_VariantClassification (fp) : ∀ v : PyVal, hookInvalid fp "VariantClassification" (emb v) = modelInvalid "VariantClassification" v := by
  hook_enum fun c m => hookInvalid_enum (E := "VariantClassificationEnum") rfl rfl rfl rfl rfl
theorem validate_VariantType (fp) : ∀ v : PyVal, hookInvalid fp "VariantType" (emb v) = modelInvalid "VariantType" v := by
  hook_enum fun c m => hookInvalid_enum (E := "VariantTypeEnum") rfl rfl rfl rfl rfl
theorem validate_VariantSupport (fp) : ∀ v : PyVal, hookInvalid fp "VariantSupport" (emb v) = modelInvalid "VariantSupport" v := by
  hook_enum fun c m => hookInvalid_enum (E := "VariantSupportEnum") rfl rfl rfl rfl rfl
theorem validate_VerificationStatus (fp) : ∀ v : PyVal, hookInvalid fp "VerificationStatus" (emb v) = modelInvalid "VerificationStatus" v := by
  hook_enum fun c m => hookInvalid_enum (E := "VerificationStatusEnum") rfl rfl rfl rfl rfl
theorem validate_ValidationStatus (fp) : ∀ v : PyVal, hookInvalid fp "ValidationStatus" (emb v) = modelInvalid "ValidationStatus" v := by
  hook_enum fun c m => hookInvalid_enum (E := "ValidationStatusEnum") rfl rfl rfl rfl rfl
theorem validate_MutationStatus (fp) : ∀ v : PyVal, hookInvalid fp "MutationStatus" (emb v) = modelInvalid "MutationStatus" v := by
  hook_enum fun c m => hookInvalid_enum (E := "MutationStatusEnum") rfl rfl rfl rfl rfl
theorem validate_Sequencer (fp) : ∀ v : PyVal, hookInvalid fp "Sequencer" (emb v) = modelInvalid "Sequencer" v := by
  hook_enum fun c m => hookInvalid_enum (E := "SequencerEnum") rfl rfl rfl rfl rfl
theorem validate_FeatureType (fp) : ∀ v : PyVal, hookInvalid fp "FeatureType" (emb v) = modelInvalid "FeatureType" v := by
  hook_enum fun c m => hookInvalid_enum (E := "FeatureTypeEnum") rfl rfl rfl rfl rfl
theorem validate_Impact (fp) : ∀ v : PyVal, hookInvalid fp "Impact" (emb v) = modelInvalid "Impact" v := by
  hook_enum fun c m => hookInvalid_enum (E := "ImpactEnum") rfl rfl rfl rfl rfl
theorem validate_MC3Overlap (fp) : ∀ v : PyVal, hookInvalid fp "MC3Overlap" (emb v) = modelInvalid "MC3Overlap" v := by
  hook_enum fun c m => hookInvalid_enum (E := "MC3OverlapEnum") rfl rfl rfl rfl rfl
theorem validate_GdcValidationStatus (fp) : ∀ v : PyVal, hookInvalid fp "GdcValidationStatus" (emb v) = modelInvalid "GdcValidationStatus" v := by
  hook_enum fun c m => hookInvalid_enum (E := "GdcValidationStatusEnum") rfl rfl rfl rfl rfl

/-- `StringColumn`: `super().__validate__()`, then the text must not be empty -/
theorem validate_StringColumn (fp) : ∀ v : PyVal, hookInvalid fp "StringColumn" (emb v) = modelInvalid "StringColumn" v := by
  intro v
  cases v with
  | atom a => cases a with
    | str s => exact hookInvalid_test (q := .textEmpty s) rfl rfl (by
        show Except.ok (!(!s.isEmpty)) = if s.isEmpty = true then _ else _
        cases s.isEmpty <;> rfl)
    | _ => rfl
  | list xs => rfl
  | tuple xs => rfl

/-- `TranscriptStrand`: `self.value not in (-1, 1)`, two tests -/
theorem validate_int_TranscriptStrand (fp) (i : Int) :
    hookInvalid fp "TranscriptStrand" (.int i) = modelInvalid "TranscriptStrand" (.atom (.int i)) := by
  refine hookInvalid_of_forall rfl (.ask_of rfl (fun h => .done_of rfl ?_) fun h => .ask_of rfl (fun h2 => .done_of rfl ?_) fun h2 => .done_of rfl ?_)
  · obtain rfl : -1 = i := of_decide_eq_true h
    rfl
  · obtain rfl : 1 = i := of_decide_eq_true h2
    rfl
  · have h1 : ¬ i = -1 := fun e => of_decide_eq_false h e.symm
    have h3 : ¬ i = 1 := fun e => of_decide_eq_false h2 e.symm
    show _ = Except.ok (!(decide (i = -1) || decide (i = 1)))
    rw [decide_eq_false h1, decide_eq_false h3]; rfl

theorem validate_TranscriptStrand (fp) : ∀ v : PyVal, hookInvalid fp "TranscriptStrand" (emb v) = modelInvalid "TranscriptStrand" v := by
  hook_int validate_int_TranscriptStrand fp

end C06Bodies
