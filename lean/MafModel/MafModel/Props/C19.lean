/-
  C19 (reader part) — incrementality: the reader never pulls more than one line beyond the record
  it has just returned.

  `Reader.pulled` counts the pulls from the input iterator (one per `Reader.advance`, including the
  pull that hits `StopIteration`); `At lines r p` (`Lemmas/ReaderLemmas.lean`) says the look-ahead
  of `r` stands at 0-based line `p`: `p + 1` pulls so far, `r.src = lines.drop (p + 1)` are the
  lines not yet pulled, and `r.next` is line `p`.
-/
import MafModel.Lemmas.ReaderExample
open Py Model
namespace C19

variable {C : Ctx} {K : HConsts} {R : Registry} {lines : List Text} {mode : Option Mode}
  {given : Option Scheme} {r r' : Reader}

theorem advance_pulls_one (r : Reader) : r.advance.pulled = r.pulled + 1 ∧ r.advance.src = r.src.tail :=
  ⟨advance_pulled r, advance_src r⟩

/-- **after construction**: the header lines, the column-name line and one look-ahead line have been
    pulled — `k + 2` pulls, or `k + 1` when the input ends with the header block -/
theorem init_lookahead (hinit : Reader.init C K R lines mode given = .ok r) :
    At lines r (min (headerLen K lines + 1) lines.length) ∧
    r.pulled = min (headerLen K lines + 1) lines.length + 1 ∧
    r.pulled ≤ headerLen K lines + 2 := by
  have hat := init_at hinit
  refine ⟨hat, hat.pulled, ?_⟩
  rw [hat.pulled]; omega

/-- **each successful `__next__` pulls exactly one more line**: the record returned is line `p`,
    the look-ahead moves to line `p + 1` -/
theorem next_pulls_one {p : Nat} {rec : Record} (hat : At lines r p)
    (h : r.nextRecord C = .ok (some (rec, r'))) :
    At lines r' (p + 1) ∧ r'.pulled = r.pulled + 1 ∧ r.next = (stripped lines)[p]? ∧ p < lines.length := by
  obtain ⟨l, prec, lg, hn, _, _, _, rfl⟩ := nextRecord_ok h
  refine ⟨hat.stepOf prec lg, by simp [stepOf], hat.next, ?_⟩
  have := hat.next
  rw [hn] at this
  have := (List.getElem?_eq_some_iff.1 this.symm).1
  simpa using this

/-- at the end of the input `__next__` answers `StopIteration` and returns no new reader state:
    nothing is pulled -/
theorem next_end_pulls_nothing (h : r.next = none) : r.nextRecord C = .ok none := nextRecord_none h

/-- `n` successful calls of `__next__` in a row -/
def nextN (C : Ctx) : Nat → Reader → Option Reader
  | 0, r => some r
  | n + 1, r =>
    match r.nextRecord C with
    | .ok (some (_, r')) => nextN C n r'
    | _ => none

theorem nextN_at : ∀ (n : Nat) (p : Nat) (r rn : Reader), At lines r p → nextN C n r = some rn →
    At lines rn (p + n) ∧ rn.pulled = r.pulled + n ∧ (0 < n → p + n ≤ lines.length) := by
  intro n
  induction n with
  | zero =>
    intro p r rn hat h
    simp only [nextN, Option.some.injEq] at h
    subst h
    exact ⟨hat, rfl, fun h => absurd h (Nat.lt_irrefl 0)⟩
  | succ n ih =>
    intro p r rn hat h
    simp only [nextN] at h
    split at h
    · rename_i rec r' hnr
      obtain ⟨hat', hp', _, hlt⟩ := next_pulls_one hat hnr
      obtain ⟨a, b, c⟩ := ih (p + 1) r' rn hat' h
      refine ⟨by rw [show p + (n + 1) = p + 1 + n by omega]; exact a, by rw [b, hp']; omega, fun _ => ?_⟩
      by_cases hn : 0 < n
      · have := c hn; omega
      · omega
    · cases h

/-- **C19 (reader look-ahead).**  After construction and `n` successful `__next__` calls the reader
    has pulled exactly `min (k+1) |lines| + 1 + n ≤ (k + 1) + n + 1` lines: the `k` header lines,
    the column-name line, the `n` data lines it has returned — and ONE line beyond the record it
    has just returned.  It never pulls past the end of the input more than once
    (`pulled ≤ |lines| + 1`), and what it has not pulled is still in the source
    (`src = lines.drop pulled`). -/
theorem reader_lookahead (hinit : Reader.init C K R lines mode given = .ok r) {n : Nat} {rn : Reader}
    (hn : nextN C n r = some rn) :
    rn.pulled = min (headerLen K lines + 1) lines.length + 1 + n ∧
    rn.pulled ≤ (headerLen K lines + 1) + n + 1 ∧
    rn.pulled ≤ lines.length + 1 ∧
    rn.src = lines.drop rn.pulled ∧
    rn.src.length + min rn.pulled lines.length = lines.length := by
  obtain ⟨hat, hp, _⟩ := init_lookahead hinit
  obtain ⟨a, b, c⟩ := nextN_at n _ r rn hat hn
  have hk := headerLen_le K lines
  refine ⟨by rw [b, hp], by rw [b, hp]; omega, ?_, by rw [a.src, a.pulled], a.src_length⟩
  rw [b, hp]
  by_cases h0 : 0 < n
  · have := c h0; omega
  · have : n = 0 := by omega
    subst this; omega

/-- the same for the whole-file iteration: when `readAll` stops — end of input, exception, or order
    violation — having returned `recs`, the reader has pulled at most the header, the column-name
    line, the records returned, the record the order checker refused (if that is what stopped it),
    and one look-ahead line -/
theorem readAll_lookahead (hinit : Reader.init C K R lines mode given = .ok r) :
    (r.readAll C K).2.2.pulled ≤ (headerLen K lines + 1) + ((r.readAll C K).1.length + 1) + 1 ∧
    (r.readAll C K).2.2.pulled ≤ lines.length + 1 ∧
    (r.readAll C K).2.2.src = lines.drop (r.readAll C K).2.2.pulled := by
  obtain ⟨hat, _, _⟩ := init_lookahead hinit
  obtain ⟨j, h⟩ := readAll_spec (C := C) (K := K) hat rfl
  have hk := headerLen_le K lines
  have hj := h.state.le
  have h2 := h.le_length_succ
  simp only [dataLines, List.length_drop, stripped_length] at hj
  have hp := h.state.pos.pulled
  refine ⟨by rw [hp]; omega, by rw [hp]; omega, by rw [h.state.pos.src, hp]⟩

/-! ### non-vacuity -/
section examples
open Model.ReaderExample

/-- the five-line example: after construction 4 lines are pulled (2 header lines, the column names,
    one look-ahead); then two records can be read, each pulling one more line — `nextN 2` succeeds
    and `reader_lookahead` applies with `n = 2`: 6 pulls for 5 lines (the last one hit the end) -/
example : ∃ r rn, Reader.init exC exK exR exLines (some .silent) none = .ok r ∧ r.pulled = 4 ∧
    headerLen exK exLines = 2 ∧ nextN exC 2 r = some rn ∧ rn.pulled = 6 := by
  have hr := init_silent exC exK exR exLines none
  have hpulled : (silentReader exK exR exLines none).pulled = 4 := by decide +kernel
  obtain ⟨hat, _, _⟩ := init_lookahead hr
  have hinv := init_schemeInv hr (by intro g h; cases h) (by intro s h; cases h)
  have hk : min (headerLen exK exLines + 1) exLines.length = 3 := by decide +kernel
  rw [hk] at hat
  -- first record: line 3 (0-based) is there
  have hn1 : (silentReader exK exR exLines none).next = some "chr1\t10\t20".toList := by
    rw [hat.next]; decide +kernel
  obtain ⟨rec1, r1, h1, hinv1, hm1⟩ := nextRecord_total (C := exC) (by decide) hinv hn1
  obtain ⟨hat1, hp1, _, _⟩ := next_pulls_one hat h1
  -- second record: line 4
  have hn2 : r1.next = some "chr2\t5".toList := by rw [hat1.next]; decide +kernel
  obtain ⟨rec2, r2, h2, _, _⟩ := nextRecord_total (C := exC) (by rw [hm1]; decide) hinv1 hn2
  obtain ⟨_, hp2, _, _⟩ := next_pulls_one hat1 h2
  refine ⟨_, r2, hr, hpulled, by decide +kernel, ?_, by rw [hp2, hp1, hpulled]⟩
  simp only [nextN, h1, h2]

end examples

end C19
