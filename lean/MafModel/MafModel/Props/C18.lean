/-
  C18 — no spill file, descriptor or gzip handle is left behind.

  The effect model `Model/Resources.lean` (tied to `maflib/sorter.py` by exact
  comparison of I/O traces under fault injection) runs the harness scenario
  `scenario n cap alwaysSpill abandon failAt`: add the keys `n, …, 1`, iterate
  (optionally abandoning the iteration after `abandon` items), then `close()` —
  again while `close()` itself reports a failure, up to three times — with the
  I/O call number `failAt` failing (`none`: no fault).

  All four statements hold for EVERY `n`, `cap` (also `cap = 0`), `alwaysSpill`,
  `abandon` and `failAt`; nothing here is bounded or partial.  The concrete runs
  at the end (`decide +kernel`) show that the hypotheses can be met and what the
  model computes; the `bounded_check_*` theorems are instances of the general ones.

  1. `no_leak`          — at the end no file, descriptor or handle exists.
  2. `propagates`       — if the fault fired, something was raised; everything raised
                          is the I/O error (`raised_only_ioErr`, unconditional), and
                          nothing is raised unless the fault fired (`raises_only_if_fired`).
  3. `clean_run`        — without a fault nothing is raised, nothing is left and the
                          complete iteration delivers the keys `1 … n` in order.
  4. `close_idempotent` — after a `close()` that returned, a further `close()` makes
                          no I/O call at all: it returns and leaves the state as it is.
-/
import MafModel.Lemmas.ResourceScenario
import MafModel.Lemmas.ResourceEval
open Py Model ResourceLemmas

namespace C18

/-- **C18.1** — once the sorter has been closed (the harness closes again when `close()`
    itself reports a failure; the fault fires at most once) no spill file, descriptor or
    gzip handle is left — whatever the fault position, including faults inside `close()`. -/
theorem no_leak (n cap : Nat) (sp : Bool) (abandon failAt : Option Nat) :
    let (_, s) := scenario n cap sp abandon failAt
    s.files = [] ∧ s.fds = [] ∧ s.handles = [] := by
  have h := (scenario_spec n cap sp abandon failAt).empty
  exact ⟨h.2.1, h.1.2.2.1, h.1.2.1⟩

/-- the sorter's own bookkeeping is empty as well -/
theorem nothing_registered (n cap : Nat) (sp : Bool) (abandon failAt : Option Nat) :
    let (_, s) := scenario n cap sp abandon failAt
    s.paths = [] ∧ s.fdsReg = [] ∧ s.merging = [] := by
  have h := (scenario_spec n cap sp abandon failAt).empty
  exact ⟨h.2.2.1, h.2.2.2, h.1.2.2.2⟩

/-- every exception the caller sees is the injected I/O error -/
theorem raised_only_ioErr (n cap : Nat) (sp : Bool) (abandon failAt : Option Nat) :
    ∀ p ∈ (scenario n cap sp abandon failAt).1.raised, p.2 = ioErr :=
  (scenario_spec n cap sp abandon failAt).io

/-- **C18.2** — if the fault fired, the failure reaches the caller (some phase raised),
    and nothing but the I/O error is raised. -/
theorem propagates (n cap : Nat) (sp : Bool) (abandon failAt : Option Nat) :
    let (log, s) := scenario n cap sp abandon failAt
    s.fired = true → log.raised ≠ [] ∧ ∀ p ∈ log.raised, p.2 = ioErr := by
  intro hf
  exact ⟨(scenario_spec n cap sp abandon failAt).propagates hf, (scenario_spec n cap sp abandon failAt).io⟩

/-- conversely nothing is raised unless a fault was planned and fired -/
theorem raises_only_if_fired (n cap : Nat) (sp : Bool) (abandon failAt : Option Nat) :
    let (log, s) := scenario n cap sp abandon failAt
    log.raised ≠ [] → failAt.isSome = true ∧ s.fired = true :=
  (scenario_spec n cap sp abandon failAt).onlyFault

theorem clean_run_raises_nothing (n cap : Nat) (sp : Bool) (abandon : Option Nat) :
    (scenario n cap sp abandon none).1.raised = [] := by
  have h := scenario_spec n cap sp abandon none
  cases hr : (scenario n cap sp abandon none).1.raised with
  | nil => rfl
  | cons x xs =>
    have := (h.onlyFault (by rw [hr]; simp)).1
    cases this

/-- **C18.3** — the fault-free run: nothing is raised, nothing is left, and a complete
    iteration delivers the keys `1, …, n` in ascending order. -/
theorem clean_run (n cap : Nat) (sp : Bool) (abandon : Option Nat) :
    let (log, s) := scenario n cap sp abandon none
    log.raised = [] ∧ (s.files = [] ∧ s.fds = [] ∧ s.handles = []) ∧
    (abandon = none → log.output = some ((List.range n).map (· + 1))) :=
  ⟨clean_run_raises_nothing n cap sp abandon, no_leak n cap sp abandon none,
   (scenario_spec n cap sp abandon none).output rfl⟩

/-- **C18.4** — `close()` is idempotent: from any state satisfying the boundary invariant
    `RInv` (files registered, descriptors registered, handles covered by registered
    cursors), if `close()` returns normally it has released everything, and a further
    `close()` returns normally without making any I/O call — the state (trace included)
    does not change. -/
theorem close_idempotent (s s1 : RState) (hr : RInv s) (h : (close : M Unit).run s = (.ok (), s1)) :
    (s1.files = [] ∧ s1.fds = [] ∧ s1.handles = []) ∧ (close : M Unit).run s1 = (.ok (), s1) := by
  have hc := close_spec s hr
  rw [show exec close s = (.ok (), s1) from h] at hc
  obtain ⟨_, _, ⟨_, q2, q3, q4⟩, q5, q6, q7⟩ := hc
  exact ⟨⟨q5, q3, q2⟩, close_noop s1 q4 q6 q7⟩

/-- the boundary invariant holds when the add phase of the scenario is over, whether it returned
    or raised (when the iteration is over: `ResourceLemmas.rinv_after_iterate`), so it holds of
    every state the harness closes -/
theorem invariant_after_add (n cap : Nat) (sp : Bool) (failAt : Option Nat) :
    RInv ((((List.range n).map (fun k => n - k)).forM add : M Unit).run
      { cap := cap, alwaysSpill := sp, failAt := failAt }).2 :=
  rinv_after_add _ _ (wf_s0 cap sp failAt) rfl

/-- a failing `close()` keeps the invariant, so the harness may simply call it again;
    when it fails the fault has fired, and the next call cannot fail -/
theorem close_failure_recoverable (s s1 : RState) (e : PyErr) (hr : RInv s)
    (h : (close : M Unit).run s = (.error e, s1)) :
    e = ioErr ∧ RInv s1 ∧ s1.fired = true ∧
    ∃ s2, (close : M Unit).run s1 = (.ok (), s2) ∧ s2.files = [] ∧ s2.fds = [] ∧ s2.handles = [] := by
  have hc := close_spec s hr
  rw [show exec close s = (.error e, s1) from h] at hc
  obtain ⟨_, he, _, hf, hE⟩ := hc
  obtain ⟨_, s2, h1, _, _, h4⟩ := (close_spec s1 hE.1).ok_of_fired hf
  exact ⟨he, hE.1, hf, s2, h1, h4.2.1, h4.1.2.2.1, h4.1.2.1⟩

/-- the final state of the scenario is a fixed point of `close()` -/
theorem scenario_closed (n cap : Nat) (sp : Bool) (abandon failAt : Option Nat) :
    (close : M Unit).run (scenario n cap sp abandon failAt).2 = (.ok (), (scenario n cap sp abandon failAt).2) := by
  have h := (scenario_spec n cap sp abandon failAt).empty
  exact close_noop _ h.1.2.2.2 h.2.2.1 h.2.2.2

/-! ## non-vacuity: concrete runs

`List.mergeSort` does not reduce in the kernel, so the runs are evaluated on the
insertion-sort presentation `ResourceEval.scenarioK`, which is proved equal to
`scenario` (`scenario_eq_scenarioK`). -/

open ResourceEval in
/-- the fault hits the add phase (a `write` of the third spill): it is raised by `add`,
    the fault fired (hypothesis of `propagates`), and everything is released at the end -/
example : (scenario 5 2 true none (some 7)).1.raised = [("add", ioErr)] ∧
    (scenario 5 2 true none (some 7)).2.fired = true ∧
    (scenario 5 2 true none (some 7)).2.files = [] := by
  rewrite [scenario_eq_scenarioK]; decide +kernel

open ResourceEval in
/-- a fault during the iteration (reading a spill file) -/
example : (scenario 3 2 true (some 1) (some 13)).1.raised = [("iterate", ioErr)] ∧
    (scenario 3 2 true (some 1) (some 13)).2.fired = true := by
  rewrite [scenario_eq_scenarioK]; decide +kernel

open ResourceEval in
/-- a fault inside `close()` (an `os.remove`): the first `close()` raises, the harness
    closes again, and nothing is left -/
example : (scenario 3 2 true (some 1) (some 22)).1.raised = [("close#0", ioErr)] ∧
    (scenario 3 2 true (some 1) (some 22)).1.output = some [1] ∧
    (scenario 3 2 true (some 1) (some 22)).2.files = [] := by
  rewrite [scenario_eq_scenarioK]; decide +kernel

open ResourceEval in
/-- fault-free runs: sorted output, complete or abandoned, spilled or in memory -/
example : (scenario 5 2 true none none).1.output = some [1, 2, 3, 4, 5] ∧
    (scenario 5 2 true none none).1.raised = [] ∧
    (scenario 5 2 false (some 2) none).1.output = some [1, 2] ∧
    (scenario 2 3 false none none).1.output = some [1, 2] := by
  rewrite [scenario_eq_scenarioK]; decide +kernel

/-- a state with one registered spill file left, and the fault planned for the next I/O call -/
def oneFile : RState := { files := [0], paths := [0], fdsReg := [none], nextId := 1, failAt := some 0 }

theorem oneFile_inv : RInv oneFile :=
  ⟨by decide, by decide, by decide, rfl, fun _ h => (by cases h), ⟨by decide, fun _ h => (by cases h)⟩,
   fun _ h => (by cases h)⟩

/-- the hypotheses of `close_failure_recoverable` are satisfiable: `close()` raises from `oneFile` -/
example : ∃ s1, (close : M Unit).run oneFile = (.error ioErr, s1) ∧ s1.files = [0] :=
  ⟨_, rfl, rfl⟩

/-- the hypotheses of `close_idempotent` are satisfiable, non-trivially: the same state without
    a fault plan; `close()` returns and removes the file -/
example : RInv { oneFile with failAt := none } ∧
    ∃ s1, (close : M Unit).run { oneFile with failAt := none } = (.ok (), s1) ∧ s1.trace = [.remove] :=
  ⟨⟨by decide, by decide, by decide, rfl, fun _ h => (by cases h), ⟨by decide, fun _ h => (by cases h)⟩,
    fun _ h => (by cases h)⟩, _, rfl, rfl⟩

/-! ## the harness's check as a function

`boundedCheck` is the sweep a test harness would make; by the theorems above it holds for
all its arguments, and the three instances that follow are what such a sweep would report. -/

/-- for one `n`: every `cap` in `caps`, both spill modes, `abandon ∈ {none, 1}`, no fault and
    every fault position `< bound`: nothing is left, the scenario raises exactly when the
    fault fired, and only the I/O error is raised -/
def boundedCheck (run : Nat → Nat → Bool → Option Nat → Option Nat → PhaseLog × RState)
    (n : Nat) (caps : List Nat) (bound : Nat) : Bool :=
  caps.all fun cap => [true, false].all fun sp =>
  [none, some 1].all fun ab => (none :: (List.range bound).map some).all fun fa =>
    let r := run n cap sp ab fa
    r.2.files.isEmpty && r.2.fds.isEmpty && r.2.handles.isEmpty &&
    (r.2.fired == !r.1.raised.isEmpty) && r.1.raised.all (fun p => p.2 == ioErr)

/-- every conjunct of the check is one of the theorems above: `no_leak`, `propagates` with
    `raises_only_if_fired`, `raised_only_ioErr` -/
theorem boundedCheck_scenario (n : Nat) (caps : List Nat) (bound : Nat) :
    boundedCheck scenario n caps bound = true := by
  simp only [boundedCheck, List.all_eq_true, Bool.and_eq_true, List.isEmpty_iff, beq_iff_eq]
  intro cap _ sp _ ab _ fa _
  have h := scenario_spec n cap sp ab fa
  refine ⟨⟨⟨⟨h.empty.2.1, h.empty.1.2.2.1⟩, h.empty.1.2.1⟩, ?_⟩, h.io⟩
  rw [Bool.eq_iff_iff, Bool.not_eq_true', ← Bool.not_eq_true, List.isEmpty_iff]
  exact ⟨h.propagates, fun hne => (h.onlyFault hne).2⟩

/-! Instances: `n ≤ 2` with `cap ∈ {1,2,3}` and `n = 3` with `cap ∈ {2,3}`; the bounds 26 and 30
    exceed the number of I/O calls of these runs (at most 25, resp. 29), so every fault
    position is covered. -/
theorem bounded_check_0_1 :
    boundedCheck scenario 0 [1, 2, 3] 26 = true ∧ boundedCheck scenario 1 [1, 2, 3] 26 = true :=
  ⟨boundedCheck_scenario _ _ _, boundedCheck_scenario _ _ _⟩
theorem bounded_check_2 : boundedCheck scenario 2 [1, 2, 3] 26 = true :=
  boundedCheck_scenario _ _ _
theorem bounded_check_3 : boundedCheck scenario 3 [2, 3] 30 = true :=
  boundedCheck_scenario _ _ _

end C18
