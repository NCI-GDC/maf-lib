/-
  C07 — the external sorter (`maflib/sorter.py`, model `MafModel/Model/Sorter.lean`).

  For every item type `α` and every key comparison `lt : α → α → Bool` whose
  derived `le a b := !lt b a` is TOTAL and TRANSITIVE (the key totally
  preorders the items), every capacity `cap ≥ 1`, both spill policies and every
  input list, iterating the sorter yields every added item exactly once, in
  non-decreasing key order, and the key sequence is independent of capacity,
  spill policy and insertion order.

  `cap ≥ 1` is an explicit hypothesis everywhere: the Python code raises
  `IndexError` for `cap = 0`, so that case is outside the specification.

  The state-machine invariants are the sorter part of C19.
-/
import MafModel.Lemmas.SorterLemmas

namespace C07
open Model SorterLemmas

variable {α : Type}

/-! ## the k-way merge -/

/-- no hypothesis on `lt` or on the chunks -/
theorem mergeK_perm (lt : α → α → Bool) (fuel : Nat) (cs : List (List α))
    (hfuel : totalLen cs ≤ fuel) :
    (mergeK lt fuel cs).Perm cs.flatten :=
  (mergeK_spec lt fuel cs hfuel).1

theorem mergeK_sorted (lt : α → α → Bool)
    (total : ∀ a b, !lt b a ∨ !lt a b)
    (trans : ∀ a b c, !lt b a → !lt c b → !lt c a)
    (fuel : Nat) (cs : List (List α))
    (hcs : ∀ c ∈ cs, c.Pairwise (fun a b => !lt b a))
    (hfuel : totalLen cs ≤ fuel) :
    (mergeK lt fuel cs).Pairwise (fun a b => !lt b a) :=
  (mergeK_spec lt fuel cs hfuel).2 ⟨total, trans⟩ hcs

/-! ## invariants of the `add` state machine (used by C19) -/

theorem stash_lt_cap (lt : α → α → Bool) (cap : Nat) (hcap : 1 ≤ cap) (sp : Bool)
    (xs : List α) :
    (xs.foldl (Sorter.add lt) { cap := cap, alwaysSpill := sp }).stash.length < cap :=
  (inv_run lt hcap sp xs).stash_lt

theorem count (lt : α → α → Bool) (cap : Nat) (hcap : 1 ≤ cap) (sp : Bool) (xs : List α) :
    totalLen (xs.foldl (Sorter.add lt) { cap := cap, alwaysSpill := sp }).files
      + (xs.foldl (Sorter.add lt) { cap := cap, alwaysSpill := sp }).stash.length
      = xs.length := by
  have h := (inv_run lt hcap sp xs).content.length_eq
  rw [List.length_append, ← totalLen_eq_length_flatten] at h
  exact h

theorem files_sorted (lt : α → α → Bool)
    (total : ∀ a b, !lt b a ∨ !lt a b)
    (trans : ∀ a b c, !lt b a → !lt c b → !lt c a)
    (cap : Nat) (hcap : 1 ≤ cap) (sp : Bool) (xs : List α) :
    ∀ f ∈ (xs.foldl (Sorter.add lt) { cap := cap, alwaysSpill := sp }).files,
      f.Pairwise (fun a b => !lt b a) ∧ f.length = cap := by
  intro f hf
  have inv := inv_run lt hcap sp xs
  obtain ⟨l, rfl⟩ := inv.files_chunk f hf
  exact ⟨sortChunk_sorted ⟨total, trans⟩ l, inv.files_len _ hf⟩

/-- no hypothesis on `lt` -/
theorem files_full (lt : α → α → Bool) (cap : Nat) (hcap : 1 ≤ cap) (sp : Bool) (xs : List α) :
    ∀ f ∈ (xs.foldl (Sorter.add lt) { cap := cap, alwaysSpill := sp }).files,
      f.length = cap :=
  (inv_run lt hcap sp xs).files_len

theorem spilled_all_but_fewer_than_cap (lt : α → α → Bool) (cap : Nat) (hcap : 1 ≤ cap)
    (sp : Bool) (xs : List α) :
    xs.length - totalLen (xs.foldl (Sorter.add lt) { cap := cap, alwaysSpill := sp }).files
      < cap := by
  have h1 := count lt cap hcap sp xs
  have h2 := stash_lt_cap lt cap hcap sp xs
  omega

theorem config_preserved (lt : α → α → Bool) (cap : Nat) (hcap : 1 ≤ cap) (sp : Bool)
    (xs : List α) :
    (xs.foldl (Sorter.add lt) { cap := cap, alwaysSpill := sp }).cap = cap ∧
    (xs.foldl (Sorter.add lt) { cap := cap, alwaysSpill := sp }).alwaysSpill = sp :=
  ⟨(inv_run lt hcap sp xs).cap_eq, (inv_run lt hcap sp xs).sp_eq⟩

theorem content (lt : α → α → Bool) (cap : Nat) (hcap : 1 ≤ cap) (sp : Bool) (xs : List α) :
    ((xs.foldl (Sorter.add lt) { cap := cap, alwaysSpill := sp }).files.flatten
      ++ (xs.foldl (Sorter.add lt) { cap := cap, alwaysSpill := sp }).stash).Perm xs :=
  (inv_run lt hcap sp xs).content

theorem files_count_and_stash_size (lt : α → α → Bool) (cap : Nat) (hcap : 1 ≤ cap) (sp : Bool)
    (xs : List α) :
    (xs.foldl (Sorter.add lt) { cap := cap, alwaysSpill := sp }).files.length = xs.length / cap ∧
    (xs.foldl (Sorter.add lt) { cap := cap, alwaysSpill := sp }).stash.length
      = xs.length % cap := by
  have h1 := count lt cap hcap sp xs
  have h2 := stash_lt_cap lt cap hcap sp xs
  have h3 := totalLen_of_forall_length (files_full lt cap hcap sp xs)
  generalize (xs.foldl (Sorter.add lt) { cap := cap, alwaysSpill := sp }) = s at h1 h2 h3 ⊢
  rw [h3] at h1
  rw [← h1, Nat.mul_comm]
  constructor
  · rw [Nat.mul_add_div (by omega), Nat.div_eq_of_lt h2, Nat.add_zero]
  · rw [Nat.mul_add_mod, Nat.mod_eq_of_lt h2]

/-! ## the sorter as a whole -/

/-- every added item comes out exactly once -/
theorem perm (lt : α → α → Bool) (cap : Nat) (hcap : 1 ≤ cap) (sp : Bool) (xs : List α) :
    (sortAll lt cap sp xs).Perm xs := by
  rw [sortAll_eq]
  exact (iter_perm lt _).trans (inv_run lt hcap sp xs).content

/-- the output is in non-decreasing key order -/
theorem sorted (lt : α → α → Bool)
    (total : ∀ a b, !lt b a ∨ !lt a b)
    (trans : ∀ a b c, !lt b a → !lt c b → !lt c a)
    (cap : Nat) (hcap : 1 ≤ cap) (sp : Bool) (xs : List α) :
    (sortAll lt cap sp xs).Pairwise (fun a b => !lt b a) := by
  rw [sortAll_eq]
  exact iter_sorted ⟨total, trans⟩ _
    (fun f hf => (files_sorted lt total trans cap hcap sp xs f hf).1)

/-- the key sequence does not depend on capacity, spill policy or insertion order -/
theorem keys_canonical (lt : α → α → Bool)
    (total : ∀ a b, !lt b a ∨ !lt a b)
    (trans : ∀ a b c, !lt b a → !lt c b → !lt c a)
    (cap₁ cap₂ : Nat) (hcap₁ : 1 ≤ cap₁) (hcap₂ : 1 ≤ cap₂) (sp₁ sp₂ : Bool)
    (xs ys : List α) (hperm : xs.Perm ys) :
    List.Forall₂ (fun a b => !lt a b ∧ !lt b a)
      (sortAll lt cap₁ sp₁ xs) (sortAll lt cap₂ sp₂ ys) :=
  sorted_perm_forall₂ ⟨total, trans⟩
    (((perm lt cap₁ hcap₁ sp₁ xs).trans hperm).trans (perm lt cap₂ hcap₂ sp₂ ys).symm)
    (sorted lt total trans cap₁ hcap₁ sp₁ xs)
    (sorted lt total trans cap₂ hcap₂ sp₂ ys)

/-- corollary: when the key is antisymmetric (a total *order*) the output itself is canonical -/
theorem output_canonical_of_antisymm (lt : α → α → Bool)
    (total : ∀ a b, !lt b a ∨ !lt a b)
    (trans : ∀ a b c, !lt b a → !lt c b → !lt c a)
    (antisymm : ∀ a b, !lt a b → !lt b a → a = b)
    (cap₁ cap₂ : Nat) (hcap₁ : 1 ≤ cap₁) (hcap₂ : 1 ≤ cap₂) (sp₁ sp₂ : Bool)
    (xs ys : List α) (hperm : xs.Perm ys) :
    sortAll lt cap₁ sp₁ xs = sortAll lt cap₂ sp₂ ys := by
  have h := keys_canonical lt total trans cap₁ cap₂ hcap₁ hcap₂ sp₁ sp₂ xs ys hperm
  generalize sortAll lt cap₁ sp₁ xs = l₁ at h
  generalize sortAll lt cap₂ sp₂ ys = l₂ at h
  induction h with
  | nil => rfl
  | cons hab _ ih => rw [antisymm _ _ hab.1 hab.2, ih]

/-! ## non-vacuity -/

section Examples

/-- the natural-number key satisfies the hypotheses -/
theorem natLt_total : ∀ a b : Nat, !decide (b < a) ∨ !decide (a < b) := by
  intro a b; simp only [Bool.not_eq_true', decide_eq_false_iff_not]; omega
theorem natLt_trans : ∀ a b c : Nat, !decide (b < a) → !decide (c < b) → !decide (c < a) := by
  intro a b c; simp only [Bool.not_eq_true', decide_eq_false_iff_not]; omega

/-- a genuine *pre*order (ties between distinct items): pairs compared on the first component -/
theorem fstLt_total : ∀ a b : Nat × Nat, !decide (b.1 < a.1) ∨ !decide (a.1 < b.1) := by
  intro a b; simp only [Bool.not_eq_true', decide_eq_false_iff_not]; omega
theorem fstLt_trans : ∀ a b c : Nat × Nat,
    !decide (b.1 < a.1) → !decide (c.1 < b.1) → !decide (c.1 < a.1) := by
  intro a b c; simp only [Bool.not_eq_true', decide_eq_false_iff_not]; omega

example (cap : Nat) (hcap : 1 ≤ cap) (sp : Bool) (xs : List Nat) :
    (sortAll (fun a b : Nat => decide (a < b)) cap sp xs).Pairwise (fun a b => !decide (b < a)) :=
  sorted _ natLt_total natLt_trans cap hcap sp xs
example (sp₁ sp₂ : Bool) (xs : List (Nat × Nat)) :
    List.Forall₂ (fun a b : Nat × Nat => !decide (a.1 < b.1) ∧ !decide (b.1 < a.1))
      (sortAll (fun a b : Nat × Nat => decide (a.1 < b.1)) 3 sp₁ xs)
      (sortAll (fun a b : Nat × Nat => decide (a.1 < b.1)) 7 sp₂ xs.reverse) :=
  keys_canonical _ fstLt_total fstLt_trans 3 7 (by omega) (by omega) sp₁ sp₂ xs xs.reverse
    (List.reverse_perm xs).symm
example :
    (mergeK (fun a b : Nat => decide (a < b)) 5 [[1, 3], [], [1, 2], [0]]).Pairwise
      (fun a b => !decide (b < a)) :=
  mergeK_sorted _ natLt_total natLt_trans 5 [[1, 3], [], [1, 2], [0]]
    (by simp) (by simp [totalLen])
example (xs : List (Nat × Nat)) :
    ∀ f ∈ (xs.foldl (Sorter.add (fun a b : Nat × Nat => decide (a.1 < b.1)))
        { cap := 4, alwaysSpill := false }).files,
      f.Pairwise (fun a b => !decide (b.1 < a.1)) ∧ f.length = 4 :=
  files_sorted _ fstLt_total fstLt_trans 4 (by omega) false xs

/-- evaluate a closed sorter expression (`decide` cannot unfold `List.mergeSort`,
    which is defined by well-founded recursion) -/
local macro "sorter_eval" : tactic =>
  `(tactic| simp [sortAll, Sorter.add, Sorter.spill, Sorter.iter, sortChunk, List.mergeSort,
      totalLen, mergeK, minHead])

example : sortAll (fun a b : Nat => decide (a < b)) 2 true [3, 1, 2, 1] = [1, 1, 2, 3] := by
  sorter_eval
example : sortAll (fun a b : Nat => decide (a < b)) 3 false [3, 1, 2, 1] = [1, 1, 2, 3] := by
  sorter_eval
example : sortAll (fun a b : Nat => decide (a < b)) 5 false [3, 1, 2, 1] = [1, 1, 2, 3] := by
  sorter_eval
/-- with ties the *items* may come out in a different order for a different capacity,
    but the *keys* agree position by position, as `keys_canonical` says -/
example : sortAll (fun a b : Nat × Nat => decide (a.1 < b.1)) 2 true [(1, 0), (2, 0), (0, 0), (1, 1)]
    = [(0, 0), (1, 0), (1, 1), (2, 0)] := by sorter_eval
example : sortAll (fun a b : Nat × Nat => decide (a.1 < b.1)) 1 true [(1, 1), (2, 0), (0, 0), (1, 0)]
    = [(0, 0), (1, 1), (1, 0), (2, 0)] := by sorter_eval

example :
    ([3, 1, 2, 1, 0].foldl (Sorter.add (fun a b : Nat => decide (a < b)))
        { cap := 2, alwaysSpill := true }).files = [[1, 3], [1, 2]] ∧
    ([3, 1, 2, 1, 0].foldl (Sorter.add (fun a b : Nat => decide (a < b)))
        { cap := 2, alwaysSpill := true }).stash = [0] := by sorter_eval

example : mergeK (fun a b : Nat => decide (a < b)) 5 [[1, 3], [], [1, 2], [0]] = [0, 1, 1, 2, 3] := by
  sorter_eval

end Examples

end C07
