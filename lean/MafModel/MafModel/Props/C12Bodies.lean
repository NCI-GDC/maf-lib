/-
  C12 — the three allele relations `AlleleOverlapType.equality / intersects / subset` (maflib/overlap_iter.py),
  translated from the source on every run and interpreted, are the model's `AlleleRel.test` for ALL lists of allele
  texts: `base == other`, `any(i in a for i in other) or base == other` and `all(i in a for i in other)` over
  `a = set(base)`.  The bodies loop over symbolic lists, so the proof goes bottom-up: membership and list equality over
  texts (`anyEq_eval`, `pyEqList_eval`), the interpreter's quantifier loops for any body whose value at every element
  is known (`allM_eval`, `anyM_eval`), the loop body `i in a` (`cond_eval`, `f_eval`), then one `Tree.eval_of_bind` per
  bind on the way up through `evalExpr`, `execStmt`, `execStmts` and `run`.
-/
import MafModel.Lemmas.BodiesEmb
import MafModel.Model.Overlap
open Py PyIR Bodies Model

namespace C12Bodies

def strs (xs : List Text) : Val := .list (xs.map Val.str)
def setOf (xs : List Text) : Val := .obj "set" ((xs.map Val.str).map (fun x => ("", x)))

/-- `anyEq` over texts is list membership -/
theorem anyEq_eval (H : Host) (x : Text) (b : List Text) :
    Tree.eval H (anyEq (.str x) (b.map Val.str)) = decide (x ∈ b) := by
  induction b with
  | nil => rfl
  | cons y ys ih =>
    simp only [List.map_cons, anyEq]
    rw [Tree.eval_bind]
    have hq : Tree.eval H (Val.pyEq (.str y) (.str x)) = (y == x) := by
      show Tree.eval H (test (.textEq y x)) = _
      simp only [test, Tree.eval, Query.holds]; by_cases h : (y == x) = true <;> simp [h]
    rw [hq]
    by_cases hyx : y = x
    · subst hyx; simp [Tree.eval]
    · have : (y == x) = false := by simpa using hyx
      rw [this]; simp only [Bool.false_eq_true, if_false]; rw [ih]
      have : x ≠ y := fun h => hyx h.symm
      simp [this]

/-- `x in set(base)` -/
theorem contains_eval (H : Host) (x : Text) (b : List Text) :
    Tree.eval H (containsVal (.str x) (setOf b)) = .ok (decide (x ∈ b)) := by
  have : containsVal (.str x) (setOf b) = M.ofTree (anyEq (.str x) (b.map Val.str)) := by
    simp [containsVal, setOf, iterate, List.map_map, Function.comp_def]
  rw [this, M.ofTree, Tree.eval_bind, anyEq_eval]; rfl

def env0 (b o : List Text) : Env := [("cls", Val.cls "AlleleOverlapType"), ("base", strs b), ("other", strs o)]
def env1 (b o : List Text) : Env := setVar (env0 b o) "a" (setOf b)
def quantE : Expr := Expr.quant true "i" (Expr.name "other") ((Expr.name "i").cmp [(CmpOp.in_, Expr.name "a")])

def condE : Expr := (Expr.name "i").cmp [(CmpOp.in_, Expr.name "a")]

theorem cond_eval (H : Host) (b o : List Text) (n : Nat) (x : Text) :
    Tree.eval H (evalExpr Generated.Bodies.program H (n + 3) (setVar (env1 b o) "i" (.str x)) condE) = .ok (.bool (decide (x ∈ b))) := by
  refine (Tree.eval_of_bind rfl (contains_eval H x b)).trans ?_
  cases decide (x ∈ b) <;> rfl

/-- the loop body `i in a` of `all(i in a for i in other)` -/
theorem f_eval (H : Host) (b o : List Text) (n : Nat) (x : Text) :
    Tree.eval H ((evalExpr Generated.Bodies.program H (n + 3) (setVar (env1 b o) "i" (.str x)) condE).bind (fun c => M.ofTree c.truthy))
      = .ok (decide (x ∈ b)) := by
  refine (Tree.eval_of_bind rfl (cond_eval H b o n x)).trans ?_
  cases decide (x ∈ b) <;> rfl

/-- `allM` over a list of texts whose body evaluates, at every element, to a known Boolean -/
theorem allM_eval (H : Host) (f : Val → M Bool) (g : Text → Bool)
    (hf : ∀ x, Tree.eval H (f (.str x)) = .ok (g x)) (o : List Text) :
    Tree.eval H (allM f (o.map Val.str)) = .ok (o.all g) := by
  induction o with
  | nil => rfl
  | cons x xs ih =>
    simp only [List.map_cons, allM, M.bind]
    erw [Tree.eval_bind, hf x]
    cases hg : g x
    · simp [List.all_cons, hg]; rfl
    · simp only [List.all_cons, hg, Bool.true_and]; exact ih

theorem quant_eval (H : Host) (b o : List Text) :
    Tree.eval H (evalExpr Generated.Bodies.program H 60 (env1 b o) quantE) = .ok (.bool (o.all (fun x => decide (x ∈ b)))) :=
  (Tree.eval_of_bind rfl (allM_eval H _ (fun x => decide (x ∈ b)) (fun x => f_eval H b o 56 x) o)).trans rfl

theorem subset_body (H : Host) (b o : List Text) :
    Tree.eval H (execStmts Generated.Bodies.program H 63 (env0 b o) Generated.Bodies.AlleleOverlapType__subset.body)
      = .ok (env1 b o, some (.bool (o.all (fun x => decide (x ∈ b))))) :=
  (Tree.eval_of_bind rfl ((Tree.eval_of_bind rfl (quant_eval H b o)).trans rfl)).trans rfl

def relRun (H : Host) (m : String) (b o : List Text) : Except PyErr Val :=
  (run Generated.Bodies.program H "AlleleOverlapType" m [.cls "AlleleOverlapType", strs b, strs o]).map (·.1)

/-- `AlleleOverlapType.subset(base, other)`, translated and interpreted, for all lists of texts -/
theorem subset_eq (H : Host) (b o : List Text) :
    relRun H "subset" b o = .ok (.bool (o.all (fun x => decide (x ∈ b)))) :=
  congrArg (Except.map fun x : Val × Env => x.1) ((run_of_body rfl rfl (subset_body H b o)).trans rfl)

/-- ... which is the hand model's `AlleleRel.test .subset` -/
theorem subset_eq_model (H : Host) (b o : List Text) :
    relRun H "subset" b o = .ok (.bool (AlleleRel.test .subset b o)) := by
  rw [subset_eq]
  congr 2
  simp [AlleleRel.test]

/-- `==` on two lists of texts -/
theorem pyEqList_eval (H : Host) (b o : List Text) :
    Tree.eval H (Val.pyEqList (b.map Val.str) (o.map Val.str)) = decide (b = o) := by
  induction b generalizing o with
  | nil => cases o <;> simp [Val.pyEqList, Tree.eval]
  | cons x xs ih =>
    cases o with
    | nil => simp [Val.pyEqList, Tree.eval]
    | cons y ys =>
      simp only [List.map_cons, Val.pyEqList]
      rw [Tree.eval_bind]
      have hq : Tree.eval H (Val.pyEq (.str x) (.str y)) = (x == y) := by
        show Tree.eval H (test (.textEq x y)) = _
        simp only [test, Tree.eval, Query.holds]; by_cases h : (x == y) = true <;> simp [h]
      rw [hq]
      by_cases hxy : x = y
      · subst hxy; simp only [beq_self_eq_true, if_true]; rw [ih]; simp
      · have : (x == y) = false := by simpa using hxy
        rw [this]; simp [Tree.eval, hxy]

def eqE : Expr := (Expr.name "base").cmp [(CmpOp.eq, Expr.name "other")]

theorem applyEq_eval (H : Host) (b o : List Text) :
    Tree.eval H (applyCmp CmpOp.eq (strs b) (strs o)) = .ok (decide (b = o)) := by
  show Tree.eval H (M.ofTree (Val.pyEqList (b.map Val.str) (o.map Val.str))) = _
  rw [M.ofTree, Tree.eval_bind, pyEqList_eval]; rfl

/-- `base == other` evaluated in an environment that begins with the bindings of the two names to the two lists -/
theorem eq_expr_eval (H : Host) (b o : List Text) (n : Nat) (rest : Env) :
    Tree.eval H (evalExpr Generated.Bodies.program H (n + 2) (env0 b o ++ rest) eqE) = .ok (.bool (decide (b = o))) := by
  refine (Tree.eval_of_bind rfl (applyEq_eval H b o)).trans ?_
  cases decide (b = o) <;> rfl

theorem equality_body (H : Host) (b o : List Text) :
    Tree.eval H (execStmts Generated.Bodies.program H 63 (env0 b o) Generated.Bodies.AlleleOverlapType__equality.body)
      = .ok (env0 b o, some (.bool (decide (b = o)))) :=
  (Tree.eval_of_bind rfl ((Tree.eval_of_bind rfl (eq_expr_eval H b o 59 [])).trans rfl)).trans rfl

/-- `AlleleOverlapType.equality(base, other)`, translated and interpreted, is `base == other` for all lists of texts -/
theorem equality_eq (H : Host) (b o : List Text) :
    relRun H "equality" b o = .ok (.bool (decide (b = o))) :=
  congrArg (Except.map fun x : Val × Env => x.1) ((run_of_body rfl rfl (equality_body H b o)).trans rfl)

theorem equality_eq_model (H : Host) (b o : List Text) :
    relRun H "equality" b o = .ok (.bool (AlleleRel.test .equality b o)) := by
  rw [equality_eq]
  congr 2
  simp only [AlleleRel.test]
  by_cases h : b = o
  · simp [h]
  · have : (b == o) = false := by simpa using h
    simp [h, this]

def anyE : Expr := Expr.quant false "i" (Expr.name "other") condE
def orE : Expr := Expr.or [anyE, eqE]

/-- `anyM` over a list of texts whose body evaluates, at every element, to a known Boolean -/
theorem anyM_eval (H : Host) (f : Val → M Bool) (g : Text → Bool)
    (hf : ∀ x, Tree.eval H (f (.str x)) = .ok (g x)) (o : List Text) :
    Tree.eval H (anyM f (o.map Val.str)) = .ok (o.any g) := by
  induction o with
  | nil => rfl
  | cons x xs ih =>
    simp only [List.map_cons, anyM, M.bind]
    erw [Tree.eval_bind, hf x]
    cases hg : g x
    · simp only [List.any_cons, hg, Bool.false_or]; exact ih
    · simp [List.any_cons, hg]; rfl

theorem any_eval (H : Host) (b o : List Text) :
    Tree.eval H (evalExpr Generated.Bodies.program H 59 (env1 b o) anyE) = .ok (.bool (o.any (fun x => decide (x ∈ b)))) :=
  (Tree.eval_of_bind rfl (anyM_eval H _ (fun x => decide (x ∈ b)) (fun x => f_eval H b o 55 x) o)).trans rfl

theorem or_eval (H : Host) (b o : List Text) :
    Tree.eval H (evalExpr Generated.Bodies.program H 60 (env1 b o) orE) = .ok (.bool (o.any (fun x => decide (x ∈ b)) || decide (b = o))) := by
  refine (Tree.eval_of_bind rfl (any_eval H b o)).trans ?_
  cases o.any (fun x => decide (x ∈ b))
  · exact eq_expr_eval H b o 57 [("a", setOf b)]
  · rfl

theorem intersects_body (H : Host) (b o : List Text) :
    Tree.eval H (execStmts Generated.Bodies.program H 63 (env0 b o) Generated.Bodies.AlleleOverlapType__intersects.body)
      = .ok (env1 b o, some (.bool (o.any (fun x => decide (x ∈ b)) || decide (b = o)))) :=
  (Tree.eval_of_bind rfl ((Tree.eval_of_bind rfl (or_eval H b o)).trans rfl)).trans rfl

/-- `AlleleOverlapType.intersects(base, other)`, translated and interpreted, for all lists of texts: some element of
    `other` is in `base`, or the two lists are equal (two empty lists intersect) -/
theorem intersects_eq (H : Host) (b o : List Text) :
    relRun H "intersects" b o = .ok (.bool (o.any (fun x => decide (x ∈ b)) || decide (b = o))) :=
  congrArg (Except.map fun x : Val × Env => x.1) ((run_of_body rfl rfl (intersects_body H b o)).trans rfl)

theorem intersects_eq_model (H : Host) (b o : List Text) :
    relRun H "intersects" b o = .ok (.bool (AlleleRel.test .intersects b o)) := by
  rw [intersects_eq]
  congr 2
  simp only [AlleleRel.test]
  congr 1
  · simp
  · by_cases h : b = o
    · simp [h]
    · have : (b == o) = false := by simpa using h
      simp [h, this]

/-- the three relations at once: the translated class methods are the model's `AlleleRel.test` -/
theorem relations_eq_model (H : Host) (b o : List Text) :
    relRun H "equality" b o = .ok (.bool (AlleleRel.test .equality b o)) ∧
    relRun H "intersects" b o = .ok (.bool (AlleleRel.test .intersects b o)) ∧
    relRun H "subset" b o = .ok (.bool (AlleleRel.test .subset b o)) :=
  ⟨equality_eq_model H b o, intersects_eq_model H b o, subset_eq_model H b o⟩

example (H : Host) : relRun H "subset" ["T".toList] ["T".toList, "T".toList] = .ok (.bool true) := by
  rw [subset_eq]; rfl

end C12Bodies
