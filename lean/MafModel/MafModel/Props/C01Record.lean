/-
  C01 at record level — `MafRecord.from_line` with a scheme accepts exactly the
  lines whose every field is accepted by the class of its column, binds accepted
  fields to the right name / index / class / value, never exposes a rejected
  field, and reports the errors in the way the stringency asks for.

  The field-level acceptance `ColSpec.accept` is the one `Props/C01.lean` proves
  equal to the documented domain; this file lifts it through the loop of
  `from_line`, `record[name] = column` (using the coherence invariant of C15) and
  the final `validate`.
-/
import MafModel.Lemmas.FromLineLemmas
import MafModel.Generated.ClassTable
import MafModel.Generated.Enums
open Model Py

namespace C01Record

/-- the hypotheses on the scheme: distinct names, at least one column, every class
    resolves, inherits `MafCustomColumnRecord.build` and is a subclass of itself -/
abbrev Hyp (C : Ctx) (S : Scheme) : Prop := SchemeOK C S

/-- a decidable check of the hypotheses (for concrete schemes: `decide +kernel`) -/
def hypCheck (C : Ctx) (S : Scheme) : Bool :=
  decide (S.names.Nodup) && decide (S.size > 0) &&
    S.cols.all (fun p => match resolveSpec C.tbl p.2 with
      | some sp => sp.buildMethod == some "MafCustomColumnRecord" && isSubclass C p.2 p.2
      | none => false)

theorem hyp_of_check (C : Ctx) (S : Scheme) (h : hypCheck C S = true) : Hyp C S := by
  simp only [hypCheck, Bool.and_eq_true, decide_eq_true_eq, List.all_eq_true] at h
  obtain ⟨⟨h1, h2⟩, h3⟩ := h
  refine ⟨h1, h2, ?_⟩
  intro p hp
  have := h3 p hp
  cases hr : resolveSpec C.tbl p.2 with
  | none => simp [hr] at this
  | some sp =>
    simp only [hr, Bool.and_eq_true, beq_iff_eq] at this
    exact ⟨sp, rfl, this.1, this.2⟩

/-! ### wrong number of fields -/

/-- Silent / Lenient (or no stringency given): a record without any column carrying exactly
    the RECORD_MISMATCH_NUMBER_OF_COLUMNS error of that line; Strict: that error is raised -/
theorem count_mismatch (C : Ctx) (S : Scheme) (line : Text) (lineNo : Option Nat)
    (mode : Option Mode) (hlen : (fieldsOf line).length ≠ S.size) :
    (mode ≠ some .strict →
      ∃ r logs, Record.fromLine C line none (some S) lineNo mode = .ok (r, logs) ∧
        r.errors = [⟨"RECORD_MISMATCH_NUMBER_OF_COLUMNS", lineNo, lineNo⟩] ∧
        r.slots = [] ∧ r.dict = [] ∧ r.line = lineNo) ∧
    (mode = some .strict →
      Record.fromLine C line none (some S) lineNo mode =
        .error (.format "RECORD_MISMATCH_NUMBER_OF_COLUMNS" lineNo)) := by
  rw [fromLine_mismatch C S line lineNo mode hlen]
  constructor
  · intro hm
    cases mode with
    | none => exact ⟨_, _, rfl, rfl, rfl, rfl, rfl⟩
    | some m =>
      cases m with
      | strict => exact absurd rfl hm
      | lenient => exact ⟨_, _, rfl, rfl, rfl, rfl, rfl⟩
      | silent => exact ⟨_, _, rfl, rfl, rfl, rfl, rfl⟩
  · rintro rfl; rfl

/-! ### right number of fields -/

section
variable {C : Ctx} {S : Scheme}

/-- outside Strict mode `from_line` always returns a record -/
theorem nonstrict_total (hS : Hyp C S) (line : Text) (lineNo : Option Nat) (mode : Option Mode)
    (hm : mode ≠ some .strict) :
    ∃ r logs, Record.fromLine C line none (some S) lineNo mode = .ok (r, logs) := by
  by_cases hlen : (fieldsOf line).length = S.size
  · rw [fromLine_spec hS line lineNo mode hlen]
    have hm' : modeOrSilent mode ≠ .strict := by
      cases mode with
      | none => simp [modeOrSilent]
      | some m => exact fun e => hm (congrArg some e)
    obtain ⟨l, hl⟩ := processErrors_nonstrict _ hm'
      (specFinal C S (fieldsOf line) lineNo (modeOrSilent mode)).errors
    rw [hl]
    exact ⟨_, _, rfl⟩
  · obtain ⟨r, logs, h, _⟩ := (count_mismatch C S line lineNo mode hlen).1 hm
    exact ⟨r, logs, h⟩

/-- whatever the mode, a returned record is the specified one -/
theorem result_eq_spec (hS : Hyp C S) {line : Text} {lineNo : Option Nat} {mode : Option Mode}
    (hlen : (fieldsOf line).length = S.size) {r : Record} {logs : List LogRec}
    (h : Record.fromLine C line none (some S) lineNo mode = .ok (r, logs)) :
    r = specFinal C S (fieldsOf line) lineNo (modeOrSilent mode) := by
  rw [fromLine_spec hS line lineNo mode hlen] at h
  split at h
  · exact (congrArg Prod.fst (Except.ok.inj h)).symm
  · cases h

theorem specFinal_inv (hS : Hyp C S) (fields : List Text) (hlen : fields.length = S.size)
    (lineNo : Option Nat) (m : Mode) : (specFinal C S fields lineNo m).Inv :=
  (fromLine_loop hS fields hlen lineNo m S.size (Nat.le_refl _)).2.of_eq rfl rfl

theorem specFinal_slot (fields : List Text) (lineNo : Option Nat) (m : Mode) {i : Nat} (hi : i < S.size)
    (c : RCol) :
    (specFinal C S fields lineNo m).slots[i]? = some (some c) ↔ colAt C S fields i = some c := by
  simp only [specFinal, specRec]
  rw [trimNone_getElem?_some, specCols_getElem? _ _ _ _ _ hi, Option.some.injEq]

theorem field_cases {fields : List Text} {lineNo : Option Nat} {i : Nat} {n cls : String} {sp : ColSpec}
    {f : Text} (hp : S.cols[i]? = some (n, cls)) (hsp : resolveSpec C.tbl cls = some sp)
    (hf : fields[i]? = some f) :
    (∃ v, sp.accept C false f = some v ∧ colAt C S fields i = some (fieldCol i n cls v) ∧
      errAt C S fields lineNo i = []) ∨
    (sp.accept C false f = none ∧ colAt C S fields i = none ∧
      errAt C S fields lineNo i = [fieldErr C sp lineNo f]) := by
  rw [colAt_eq hp hf hsp, errAt_eq hp hf hsp]
  cases sp.accept C false f with
  | none => exact Or.inr ⟨rfl, rfl, rfl⟩
  | some v => exact Or.inl ⟨v, rfl, rfl, rfl⟩

/-- **acceptance.**  The returned record has no error iff every field is accepted by the
    (resolved) class of its column. -/
theorem accept_iff (hS : Hyp C S) {line : Text} {lineNo : Option Nat} {mode : Option Mode}
    (hlen : (fieldsOf line).length = S.size) {r : Record} {logs : List LogRec}
    (h : Record.fromLine C line none (some S) lineNo mode = .ok (r, logs)) :
    r.errors = [] ↔
      ∀ (i : Nat) (n cls : String) (sp : ColSpec) (f : Text),
        S.cols[i]? = some (n, cls) → resolveSpec C.tbl cls = some sp → (fieldsOf line)[i]? = some f →
        (sp.accept C false f).isSome = true := by
  rw [result_eq_spec hS hlen h]
  simp only [specFinal, specRec, List.append_eq_nil_iff, List.flatMap_eq_nil_iff, List.mem_range,
    noValueErrs_eq_nil_iff]
  constructor
  · rintro ⟨h1, _⟩ i n cls sp f hp hsp hf
    rcases field_cases (lineNo := lineNo) hp hsp hf with ⟨v, ha, _⟩ | ⟨_, _, he⟩
    · rw [ha]; rfl
    · have := h1 i (List.getElem?_eq_some_iff.1 hp).1
      rw [he] at this; cases this
  · intro hall
    -- every position stores a column and records no error
    have key : ∀ i, i < S.size → errAt C S (fieldsOf line) lineNo i = [] ∧
        ∃ c, colAt C S (fieldsOf line) i = some c := by
      intro i hi
      obtain ⟨⟨n, cls⟩, hp⟩ : ∃ p, S.cols[i]? = some p := ⟨_, List.getElem?_eq_getElem hi⟩
      obtain ⟨f, hf⟩ : ∃ f, (fieldsOf line)[i]? = some f := ⟨_, List.getElem?_eq_getElem (hlen ▸ hi)⟩
      obtain ⟨sp, hsp, _, _⟩ := hS.cls_ok _ (List.mem_of_getElem? hp)
      rcases field_cases (lineNo := lineNo) hp hsp hf with ⟨v, _, hc, he⟩ | ⟨ha, _, _⟩
      · exact ⟨he, _, hc⟩
      · have := hall i n cls sp f hp hsp hf
        rw [ha] at this; cases this
    refine ⟨fun i hi => (key i hi).1, fun hmem => ?_⟩
    have := mem_trimNone hmem
    simp only [specCols, List.mem_map, List.mem_range] at this
    obtain ⟨j, hj, hc⟩ := this
    obtain ⟨c, hc'⟩ := (key j hj).2
    rw [hc'] at hc; cases hc

/-- **binding of an accepted field.**  Slot `i` holds a column with the `i`-th name, index `i`,
    the `i`-th class and the accepted value; lookups by name and by position return that value. -/
theorem binding_accepted (hS : Hyp C S) {line : Text} {lineNo : Option Nat} {mode : Option Mode}
    (hlen : (fieldsOf line).length = S.size) {r : Record} {logs : List LogRec}
    (h : Record.fromLine C line none (some S) lineNo mode = .ok (r, logs))
    {i : Nat} {n cls : String} {sp : ColSpec} {f : Text} {v : PyVal}
    (hp : S.cols[i]? = some (n, cls)) (hsp : resolveSpec C.tbl cls = some sp)
    (hf : (fieldsOf line)[i]? = some f) (ha : sp.accept C false f = some v) :
    r.slots[i]? = some (some { oid := i, col := { cls := cls, key := n.toList, value := v, index := some (i : Int) } }) ∧
    r.getItem (.name n.toList) = .ok (some { oid := i, col := { cls := cls, key := n.toList, value := v, index := some (i : Int) } }) ∧
    r.value (.name n.toList) = .ok v ∧ r.value (.int i) = .ok v := by
  rw [result_eq_spec hS hlen h]
  have hslot := (specFinal_slot (fieldsOf line) lineNo (modeOrSilent mode) (List.getElem?_eq_some_iff.1 hp).1
    (fieldCol i n cls v)).2 (by rw [colAt_eq hp hf hsp, ha]; rfl)
  -- the column in slot `i` is the one stored under its name
  have hget := ((specFinal_inv hS (fieldsOf line) hlen lineNo (modeOrSilent mode)).slot_ok i _ hslot).2
  have hname : (specFinal C S (fieldsOf line) lineNo (modeOrSilent mode)).getItem (.name n.toList) =
      .ok (some (fieldCol i n cls v)) := (getItem_name_iff _ _ _).2 hget
  have hint := (getItem_int_iff _ _ _).2 hslot
  refine ⟨hslot, hname, ?_, ?_⟩
  · simp only [Record.value, hname]; rfl
  · simp only [Record.value, hint]; rfl

/-- **a rejected field is never exposed.**  Its slot is empty (or beyond the end of the slot
    list), a lookup by its name finds nothing (`record.value(name)` is `None`), and the record
    carries an error for it, reported at the line number given to `from_line`. -/
theorem binding_rejected (hS : Hyp C S) {line : Text} {lineNo : Option Nat} {mode : Option Mode}
    (hlen : (fieldsOf line).length = S.size) {r : Record} {logs : List LogRec}
    (h : Record.fromLine C line none (some S) lineNo mode = .ok (r, logs))
    {i : Nat} {n cls : String} {sp : ColSpec} {f : Text}
    (hp : S.cols[i]? = some (n, cls)) (hsp : resolveSpec C.tbl cls = some sp)
    (hf : (fieldsOf line)[i]? = some f) (ha : sp.accept C false f = none) :
    (r.slots[i]? = some none ∨ r.slots[i]? = none) ∧
    r.getItem (.name n.toList) = .error .key ∧
    r.value (.name n.toList) = .ok .none ∧
    ∃ e ∈ r.errors, e.line = lineNo ∧ e.origin = lineNo ∧
      (e.tpe = "RECORD_INVALID_COLUMN_VALUE" ∨ e.tpe = "RECORD_COLUMN_WRONG_FORMAT") := by
  rw [result_eq_spec hS hlen h]
  have hi : i < S.size := (List.getElem?_eq_some_iff.1 hp).1
  have hcol : colAt C S (fieldsOf line) i = none := by rw [colAt_eq hp hf hsp, ha]; rfl
  have hslot : ∀ c, (specFinal C S (fieldsOf line) lineNo (modeOrSilent mode)).slots[i]? ≠ some (some c) :=
    fun c hc => by rw [specFinal_slot _ _ _ hi, hcol] at hc; cases hc
  -- a column stored under the name `n` would sit at the position of that name: `i`
  have hdict : tdictGet (specFinal C S (fieldsOf line) lineNo (modeOrSilent mode)).dict n.toList = none := by
    cases hg : tdictGet (specFinal C S (fieldsOf line) lineNo (modeOrSilent mode)).dict n.toList with
    | none => rfl
    | some c =>
      obtain ⟨j, hj, hc, hk⟩ := specRec_dict_name (C := C) (S := S) (fields := fieldsOf line)
        (lineNo := lineNo) (m := modeOrSilent mode) (k := S.size) (mem_of_tdictGet hg)
      obtain ⟨n', cls', sp', f', v', hp', _, _, _, hcv⟩ := colAt_some hc
      have : n'.toList = n.toList := (congrArg (·.col.key) hcv).symm.trans hk.symm
      cases Scheme.name_inj hS.nodup hp' hp (String.toList_inj.1 this)
      rw [hcol] at hc; cases hc
  have hname : (specFinal C S (fieldsOf line) lineNo (modeOrSilent mode)).getItem (.name n.toList) =
      .error .key := by
    simp only [Record.getItem, hdict]
  refine ⟨?_, hname, by simp only [Record.value, hname], fieldErr C sp lineNo f, ?_, ?_⟩
  · cases hs : (specFinal C S (fieldsOf line) lineNo (modeOrSilent mode)).slots[i]? with
    | none => exact Or.inr rfl
    | some o =>
      cases o with
      | none => exact Or.inl rfl
      | some c => exact absurd hs (hslot c)
  · simp only [specFinal, specRec, List.mem_append, List.mem_flatMap, List.mem_range]
    exact Or.inl ⟨i, hi, by rw [errAt_eq hp hf hsp, ha]; exact List.mem_singleton.2 rfl⟩
  · unfold fieldErr
    split <;> simp

/-- The stringency decides only how the errors are reported: the record of any mode `m` is the Silent one
    with its `validation_stringency` set to `m`.  Holds for any number of fields. -/
theorem mode_eq (hS : Hyp C S) (line : Text) (lineNo : Option Nat) {rs : Record} {logs : List LogRec}
    (h : Record.fromLine C line none (some S) lineNo (some .silent) = .ok (rs, logs)) (m : Mode) :
    Record.fromLine C line none (some S) lineNo (some m) =
      match processErrors m rs.errors with
      | .ok l => .ok ({ rs with mode := m }, l)
      | .error e => .error e := by
  by_cases hlen : (fieldsOf line).length = S.size
  · rw [fromLine_spec hS line lineNo (some m) hlen, result_eq_spec hS hlen h]
    rfl
  · rw [fromLine_mismatch C S line lineNo _ hlen] at h ⊢
    obtain rfl := congrArg Prod.fst (Except.ok.inj h)
    rfl

/-- **Strict.**  With the errors `e :: _` the Silent mode collects, Strict raises
    `MafFormatException(e.tpe, e.line)`; with none it returns the Silent record
    (whose `validation_stringency` is then Strict).  Holds for any number of fields. -/
theorem strict (hS : Hyp C S) (line : Text) (lineNo : Option Nat) {rs : Record} {logs : List LogRec}
    (h : Record.fromLine C line none (some S) lineNo (some .silent) = .ok (rs, logs)) :
    Record.fromLine C line none (some S) lineNo (some .strict) =
      match rs.errors with
      | [] => .ok ({ rs with mode := .strict }, [])
      | e :: _ => .error (.format e.tpe e.line) := by
  rw [mode_eq hS line lineNo h .strict]
  cases rs.errors <;> rfl

/-- **Silent and Lenient agree** on the record (columns, name map, errors); Lenient
    additionally logs one warning per error; no stringency means Silent. -/
theorem modes_agree (hS : Hyp C S) (line : Text) (lineNo : Option Nat) {rs : Record}
    {logs : List LogRec}
    (h : Record.fromLine C line none (some S) lineNo (some .silent) = .ok (rs, logs)) :
    logs = [] ∧
    Record.fromLine C line none (some S) lineNo (some .lenient) =
      .ok ({ rs with mode := .lenient }, rs.errors.map (fun e => { tpe := e.tpe, line := e.line })) ∧
    Record.fromLine C line none (some S) lineNo none = .ok (rs, logs) := by
  refine ⟨?_, ?_, h⟩
  · have h' := mode_eq hS line lineNo h .silent
    rw [h] at h'
    cases hE : rs.errors <;> rw [hE] at h' <;> exact (congrArg Prod.snd (Except.ok.inj h'))
  · rw [mode_eq hS line lineNo h .lenient]
    cases rs.errors <;> rfl

end

/-! ### non-vacuity: a concrete scheme over the generated class table -/

def demoC : Ctx := ⟨Generated.classTable, Generated.enums, ⟨fun _ => none⟩⟩

def demoS : Scheme :=
  { version := "v", annotation := "a",
    cols := [("Hugo_Symbol", "StringColumn"), ("Start_Position", "OneBasedIntegerColumn"),
             ("Strand", "Strand")] }

/-- the hypotheses of all theorems above hold for it -/
theorem demo_hyp : Hyp demoC demoS := hyp_of_check _ _ (by decide +kernel)

def summary (x : Except PyErr (Record × List LogRec)) :
    Option (List String × List (Option Text) × Nat) :=
  match x with
  | .ok (r, logs) => some (r.errors.map (·.tpe), r.keys, logs.length)
  | .error _ => none

/-- a conforming line: no error, every column bound (hypotheses of `accept_iff`, right to left,
    and of `binding_accepted`) -/
example : (fieldsOf "TP53\t7\t+\r\n".toList).length = demoS.size := by decide +kernel
example : summary (Record.fromLine demoC "TP53\t7\t+\r\n".toList none (some demoS) (some 3) none) =
    some ([], [some "Hugo_Symbol".toList, some "Start_Position".toList, some "Strand".toList], 0) := by
  rw [fromLine_spec demo_hyp _ _ _ (by decide +kernel)]
  decide +kernel

/-- a line whose first field is outside its domain (hypotheses of `binding_rejected`): the slot
    stays empty, two errors, one warning each in Lenient mode -/
example : summary (Record.fromLine demoC "\t7\t+".toList none (some demoS) (some 3) (some .lenient)) =
    some (["RECORD_COLUMN_WRONG_FORMAT", "RECORD_COLUMN_WITH_NO_VALUE"],
      [none, some "Start_Position".toList, some "Strand".toList], 2) := by
  decide +kernel

def errOf (x : Except PyErr (Record × List LogRec)) : Option PyErr :=
  match x with
  | .error e => some e
  | .ok _ => none

/-- `strict`, error case, and `count_mismatch` -/
example : errOf (Record.fromLine demoC "\t7\t+".toList none (some demoS) (some 3) (some .strict)) =
    some (.format "RECORD_COLUMN_WRONG_FORMAT" (some 3)) := by decide +kernel

example : (fieldsOf "TP53\t7".toList).length ≠ demoS.size := by decide +kernel

end C01Record
