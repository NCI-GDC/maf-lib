/-
  C08 — sort keys form the documented total preorder and never fail on well-formed records.

  Everything is stated about the model's own `mkKey`, `cmpKV`, `cmpKey` and the six operators
  `keyLt keyEq keyLe keyGt keyGe keyNe` (`MafModel/Model/SortOrder.lean`).

  * `Loc.WF` (in `Lemmas/SortOrderLemmas.lean`) is the decidable well-formedness predicate.
  * `GoodKey o cs k`: `k` is a key that `mkKey o cs` produced from some well-formed record.
  * `KeyInv ranked k`: the kind invariant (barcodes `None`/text, chromosome `None`/text without
    contig list and integer rank with one, positions `None`/integer).  All order laws are proved
    for every key satisfying the invariant (`…_inv`), and specialised to `GoodKey`s.

  Errors of the key function (section a): `KeyError` exactly for the records that cannot be keyed
  (a coordinate column is missing, or a position is a text `int()` cannot read:
  `mkKey_keyError_iff`), `ValueError` exactly for a chromosome missing from a non-empty contig
  list (`Model.mkKey_valueError_iff`, no hypothesis on the positions), nothing else
  (`mkKey_all_cases`).

  None of the statements needs `o.sortable`: they hold for every order `o` (an order without
  barcodes builds coordinate keys).
-/
import MafModel.Lemmas.SortOrderLemmas
open Py Model
namespace C08

/-! ## (a) `mkKey` never fails on well-formed records, except for the documented `ValueError` -/

/-- a. a well-formed record can be keyed when there is no contig list or its chromosome name is
    in the list, and the key is `Loc.key` (barcodes copied, chromosome name or rank, positions as
    integers) -/
theorem mkKey_value (o : Order) (cs : List Text) (l : Loc) (hwf : l.WF)
    (hc : cs = [] ∨ ∃ s, l.chrName = some s ∧ s ∈ cs) : mkKey o cs l = .ok (l.key o cs) :=
  mkKey_eq_ok hwf hc

theorem mkKey_total (o : Order) (cs : List Text) (l : Loc) (hwf : l.WF)
    (hc : cs = [] ∨ ∃ s, l.chrName = some s ∧ s ∈ cs) : ∃ k, mkKey o cs l = .ok k :=
  ⟨_, mkKey_value o cs l hwf hc⟩

/-- a. with a contig list that does not contain the chromosome (or no chromosome at all), keying
    raises `ValueError` -/
theorem contig_missing (o : Order) (cs : List Text) (l : Loc) (hwf : l.WF)
    (hne : cs ≠ []) (h : ∀ s, l.chrName = some s → s ∉ cs) :
    mkKey o cs l = .error .value :=
  mkKey_eq_error hwf.1 hne h

/-- a. without a contig list the key function never raises `ValueError` -/
theorem no_valueError_without_contigs (o : Order) (l : Loc) : mkKey o [] l ≠ .error .value := by
  intro h
  exact (mkKey_valueError_iff.1 h).2.1 rfl

/-- a. the two cases are exhaustive: on a well-formed record `mkKey` either succeeds or raises
    `ValueError` for a chromosome missing from the contig list — nothing else
    (no `KeyError`, no `TypeError`) -/
theorem mkKey_wf_cases (o : Order) (cs : List Text) (l : Loc) (hwf : l.WF) :
    mkKey o cs l = .ok (l.key o cs) ∨
      (cs ≠ [] ∧ (∀ s, l.chrName = some s → s ∉ cs) ∧ mkKey o cs l = .error .value) := by
  by_cases hc : l.chrOk cs
  · exact .inl (mkKey_eq_ok hwf hc)
  · obtain ⟨hne, hm⟩ := not_chrOk_iff.1 hc
    exact .inr ⟨hne, hm, mkKey_eq_error hwf.1 hne hm⟩

/-- a. the complete case analysis for EVERY record, in the evaluation order of
    `_CoordinateKey.__init__`: no coordinates → `KeyError`; chromosome not in the contig list →
    `ValueError`; a position text that is not a number → `KeyError`; otherwise the key `Loc.key` -/
theorem mkKey_all_cases (o : Order) (cs : List Text) (l : Loc) :
    (l.hasCoords = false ∧ mkKey o cs l = .error .key) ∨
    (l.hasCoords = true ∧ cs ≠ [] ∧ (∀ s, l.chrName = some s → s ∉ cs) ∧
      mkKey o cs l = .error .value) ∨
    (l.hasCoords = true ∧ l.chrOk cs ∧ (l.start.posOk = false ∨ l.stop.posOk = false) ∧
      mkKey o cs l = .error .key) ∨
    (l.hasCoords = true ∧ l.chrOk cs ∧ l.start.posOk = true ∧ l.stop.posOk = true ∧
      mkKey o cs l = .ok (l.key o cs)) := by
  simpa only [not_chrOk_iff, and_assoc] using mkKey_cases o cs l

/-- `KeyError` is raised exactly by the records that cannot be keyed: a coordinate column is
    missing, or — the chromosome being keyable (no contig list, or the name is in it) — a position
    is a text that `int()` cannot read -/
theorem mkKey_keyError_iff (o : Order) (cs : List Text) (l : Loc) :
    mkKey o cs l = .error .key ↔
      l.hasCoords = false ∨
        ((cs = [] ∨ ∃ s, l.chrName = some s ∧ s ∈ cs) ∧
          (l.start.posOk = false ∨ l.stop.posOk = false)) :=
  Model.mkKey_keyError_iff

/-- the key function raises nothing but `KeyError` and `ValueError` -/
theorem mkKey_error_kinds (o : Order) (cs : List Text) (l : Loc) (e : PyErr)
    (h : mkKey o cs l = .error e) : e = .key ∨ e = .value :=
  mkKey_error_kind h

/-- `mkKey` succeeds exactly on the records with coordinate columns, a keyable chromosome and
    readable positions (the barcodes are copied, never read) -/
theorem mkKey_succeeds_iff (o : Order) (cs : List Text) (l : Loc) (k : Key) :
    mkKey o cs l = .ok k ↔
      l.hasCoords = true ∧ (cs = [] ∨ ∃ s, l.chrName = some s ∧ s ∈ cs) ∧
        l.start.posOk = true ∧ l.stop.posOk = true ∧ k = l.key o cs :=
  Model.mkKey_ok_iff'

/-- a text position that `int()` rejects makes the record un-keyable: `KeyError`, like a missing
    coordinate column (why `WF` asks for readable positions) -/
theorem posInt_bad_text (s : Text) (h : pyInt s = none) : posInt (.str s) = .error .key := by
  simp [posInt, h]

/-- `posInt` raises nothing but that `KeyError` -/
theorem posInt_error_iff (v : KV) (e : PyErr) :
    posInt v = .error e ↔ (∃ s, v = .str s ∧ pyInt s = none) ∧ e = .key := by
  cases v with
  | str s => cases h : pyInt s <;> simp [posInt, h, eq_comm]
  | _ => simp [posInt]

/-- a record whose start (or end) is a non-numeric text is a `KeyError` when its chromosome can be
    keyed ... -/
theorem bad_position_keyError (o : Order) (cs : List Text) (l : Loc) (h0 : l.hasCoords = true)
    (hc : cs = [] ∨ ∃ s, l.chrName = some s ∧ s ∈ cs)
    (hp : l.start.posOk = false ∨ l.stop.posOk = false) : mkKey o cs l = .error .key :=
  mkKey_bad_position h0 hc hp

example : ∃ k, mkKey .barcodesAndCoordinate ["chr1".toList, "chr2".toList]
    { tumor := .str "T".toList, chr := .str "chr2".toList, start := .int 5, stop := .int 9 }
      = .ok k :=
  mkKey_total _ _ _ (by decide) (.inr ⟨"chr2".toList, by decide, by decide⟩)

example : mkKey .coordinate ["chr1".toList] { chr := .str "chrX".toList, start := .int 5, stop := .int 9 }
    = .error .value :=
  contig_missing _ _ _ (by decide) (by decide) (by intro s hs; cases hs; decide)

/-- non-vacuity of `bad_position_keyError`: the start `"abc"` is not a number -/
example : mkKey .coordinate ["chr1".toList]
    { chr := .str "chr1".toList, start := .str "abc".toList, stop := .int 9 } = .error .key :=
  bad_position_keyError _ _ _ rfl (.inr ⟨"chr1".toList, by decide, by decide⟩) (.inl (by decide))

/-- ... but the contig lookup comes first: the same bad position on a chromosome the contig list
    does not have is the `ValueError` (`mkKey_valueError_iff` has no position hypothesis) -/
example : mkKey .coordinate ["chr1".toList]
    { chr := .str "chrX".toList, start := .str "abc".toList, stop := .int 9 } = .error .value :=
  mkKey_valueError_iff.2 ⟨rfl, by decide, by intro s hs; cases hs; decide⟩

/-! ## keys of well-formed records -/

/-- `k` is a key made by `mkKey o cs` from a well-formed record -/
def GoodKey (o : Order) (cs : List Text) (k : Key) : Prop :=
  ∃ l : Loc, l.WF ∧ mkKey o cs l = .ok k

theorem GoodKey.inv {o : Order} {cs : List Text} {k : Key} (h : GoodKey o cs k) :
    KeyInv (!cs.isEmpty) k := by
  obtain ⟨l, hwf, hk⟩ := h
  exact mkKey_inv hwf hk

/-- non-vacuity: a good key with a contig list, barcodes and a text position -/
example : GoodKey .barcodesAndCoordinate ["chr1".toList, "chr2".toList]
    { tumor := .str "T".toList, normal := .none, chr := .int 1, start := .int 5, stop := .int 9 } :=
  ⟨{ tumor := .str "T".toList, chr := .str "chr2".toList, start := .int 5, stop := .int 9 },
    by decide, by decide⟩

/-! ## (b) comparison never fails between keys of one `(o, cs)` -/

section inv
variable {r : Bool} {a b c : Key}

/-- b. keys produced by `mkKey o cs` from well-formed records always compare, with a sign -/
theorem cmp_total_good {o : Order} {cs : List Text} {a b : Key}
    (ha : GoodKey o cs a) (hb : GoodKey o cs b) :
    ∃ d, cmpKey a b = .ok d ∧ (d = -1 ∨ d = 0 ∨ d = 1) :=
  ⟨_, ha.inv.cmpKey_eq hb.inv, Key.cmp_isCmp.sign a b⟩

theorem cmp_total {o : Order} {cs : List Text} {l₁ l₂ : Loc} {k₁ k₂ : Key}
    (h₁ : l₁.WF) (h₂ : l₂.WF) (e₁ : mkKey o cs l₁ = .ok k₁) (e₂ : mkKey o cs l₂ = .ok k₂) :
    ∃ d, cmpKey k₁ k₂ = .ok d ∧ (d = -1 ∨ d = 0 ∨ d = 1) :=
  cmp_total_good ⟨l₁, h₁, e₁⟩ ⟨l₂, h₂, e₂⟩

/-- the hypothesis "same `cs`" matters: a key made with a contig list does not compare with one
    made without (`TypeError`: rank vs name) -/
example : cmpKey { chr := .int 0, start := .int 1, stop := .int 2 }
    { chr := .str "chr1".toList, start := .int 1, stop := .int 2 } = .error .type := by decide

/-! ## (c) total preorder -/

theorem cmp_refl_inv {k : Key} (h : KeyInv r k) : cmpKey k k = .ok 0 := by
  rw [h.cmpKey_eq h, Key.cmp_isCmp.self]

theorem cmp_antisymm_inv {d : Int} (ha : KeyInv r a) (hb : KeyInv r b)
    (h : cmpKey a b = .ok d) : cmpKey b a = .ok (-d) := by
  rw [ha.cmpKey_eq hb] at h
  cases h
  rw [hb.cmpKey_eq ha, Key.cmp_isCmp.swap]

/-- all transitivity facts at once: `d₃` exists and `(d₁, d₂, d₃)` is a `Tri`ple -/
theorem cmp_tri_inv {d₁ d₂ : Int}
    (ha : KeyInv r a) (hb : KeyInv r b) (hc : KeyInv r c)
    (h₁ : cmpKey a b = .ok d₁) (h₂ : cmpKey b c = .ok d₂) :
    ∃ d₃, cmpKey a c = .ok d₃ ∧ Tri d₁ d₂ d₃ := by
  rw [ha.cmpKey_eq hb] at h₁
  rw [hb.cmpKey_eq hc] at h₂
  cases h₁; cases h₂
  exact ⟨_, ha.cmpKey_eq hc, Key.cmp_isCmp.tri a b c⟩

/-- equal keys (comparison `0`) are interchangeable on either side of a comparison -/
theorem cmp_congr_inv {r : Bool} {a b c : Key} {d : Int}
    (ha : KeyInv r a) (hb : KeyInv r b) (hc : KeyInv r c)
    (h₁ : cmpKey a b = .ok 0) (h₂ : cmpKey b c = .ok d) : cmpKey a c = .ok d := by
  obtain ⟨d₃, h₃, t⟩ := cmp_tri_inv ha hb hc h₁ h₂
  rw [h₃, t.2.2.2.1 rfl]

/-- the preorder is in fact an order on keys: comparison `0` means the keys are equal -/
theorem cmp_eq_zero_iff_inv (ha : KeyInv r a) (hb : KeyInv r b) :
    cmpKey a b = .ok 0 ↔ a = b := by
  rw [ha.cmpKey_eq hb, Except.ok.injEq, Key.cmp_eq_zero]

end inv

section good
variable {o : Order} {cs : List Text} {a b c : Key}

theorem cmp_refl (ha : GoodKey o cs a) : cmpKey a a = .ok 0 := cmp_refl_inv ha.inv

theorem cmp_antisymm {d : Int} (ha : GoodKey o cs a) (hb : GoodKey o cs b)
    (h : cmpKey a b = .ok d) : cmpKey b a = .ok (-d) := cmp_antisymm_inv ha.inv hb.inv h

theorem cmp_trans {d₁ d₂ : Int} (ha : GoodKey o cs a) (hb : GoodKey o cs b) (hc : GoodKey o cs c)
    (h₁ : cmpKey a b = .ok d₁) (h₂ : cmpKey b c = .ok d₂) (l₁ : d₁ ≤ 0) (l₂ : d₂ ≤ 0) :
    ∃ d₃, cmpKey a c = .ok d₃ ∧ d₃ ≤ 0 := by
  obtain ⟨d₃, h₃, t⟩ := cmp_tri_inv ha.inv hb.inv hc.inv h₁ h₂
  exact ⟨d₃, h₃, t.1 l₁ l₂⟩

theorem cmp_trans_strict {d₁ d₂ : Int} (ha : GoodKey o cs a) (hb : GoodKey o cs b)
    (hc : GoodKey o cs c) (h₁ : cmpKey a b = .ok d₁) (h₂ : cmpKey b c = .ok d₂)
    (l : (d₁ < 0 ∧ d₂ ≤ 0) ∨ (d₁ ≤ 0 ∧ d₂ < 0)) :
    ∃ d₃, cmpKey a c = .ok d₃ ∧ d₃ < 0 := by
  obtain ⟨d₃, h₃, t⟩ := cmp_tri_inv ha.inv hb.inv hc.inv h₁ h₂
  exact ⟨d₃, h₃, l.elim (fun l => t.2.1 l.1 l.2) (fun l => t.2.2.1 l.1 l.2)⟩

theorem cmp_eq_zero_iff (ha : GoodKey o cs a) (hb : GoodKey o cs b) :
    cmpKey a b = .ok 0 ↔ a = b := cmp_eq_zero_iff_inv ha.inv hb.inv

end good

/-! ## (d) the six operators agree with the comparison -/

/-- d. (no kind hypothesis is needed once `cmpKey a b = .ok d` is known; for good keys such a
    `d` always exists by `cmp_total`) -/
theorem ops_agree {a b : Key} {d : Int} (h : cmpKey a b = .ok d) :
    keyLt a b = .ok (decide (d < 0)) ∧ keyLe a b = .ok (decide (d ≤ 0)) ∧
    keyGt a b = .ok (decide (d > 0)) ∧ keyGe a b = .ok (decide (d ≥ 0)) ∧
    keyEq a b = .ok (decide (d = 0)) ∧ keyNe a b = .ok (decide (d ≠ 0)) :=
  ops_of_cmpKey h

/-- d. for good keys: all six operators return, and agree with the one comparison sign -/
theorem ops_agree_good {o : Order} {cs : List Text} {a b : Key}
    (ha : GoodKey o cs a) (hb : GoodKey o cs b) :
    ∃ d, cmpKey a b = .ok d ∧ (d = -1 ∨ d = 0 ∨ d = 1) ∧
      keyLt a b = .ok (decide (d < 0)) ∧ keyLe a b = .ok (decide (d ≤ 0)) ∧
      keyGt a b = .ok (decide (d > 0)) ∧ keyGe a b = .ok (decide (d ≥ 0)) ∧
      keyEq a b = .ok (decide (d = 0)) ∧ keyNe a b = .ok (decide (d ≠ 0)) := by
  obtain ⟨d, hd, hs⟩ := cmp_total_good ha hb
  exact ⟨d, hd, hs, ops_of_cmpKey hd⟩

/-! ### `≤` (the operator `keyLe`) is a total preorder, `<` its strict part -/

section inv
variable {r : Bool} {a b c : Key}

theorem keyLe_iff_inv (ha : KeyInv r a) (hb : KeyInv r b) :
    keyLe a b = .ok true ↔ Key.cmp a b ≤ 0 := by
  rw [ha.keyLe_eq hb]
  simp

theorem keyLt_iff_inv (ha : KeyInv r a) (hb : KeyInv r b) :
    keyLt a b = .ok true ↔ Key.cmp a b < 0 := by
  rw [ha.keyLt_eq hb]
  simp

theorem keyLt_false_iff_inv (ha : KeyInv r a) (hb : KeyInv r b) :
    keyLt a b = .ok false ↔ 0 ≤ Key.cmp a b := by
  rw [ha.keyLt_eq hb]
  simp

theorem le_refl_inv (ha : KeyInv r a) : keyLe a a = .ok true := by
  rw [keyLe_iff_inv ha ha, Key.cmp_isCmp.self]; omega

theorem le_total_inv (ha : KeyInv r a) (hb : KeyInv r b) :
    keyLe a b = .ok true ∨ keyLe b a = .ok true := by
  rw [keyLe_iff_inv ha hb, keyLe_iff_inv hb ha, Key.cmp_isCmp.swap a b]; omega

theorem le_trans_inv (ha : KeyInv r a) (hb : KeyInv r b) (hc : KeyInv r c)
    (h₁ : keyLe a b = .ok true) (h₂ : keyLe b c = .ok true) : keyLe a c = .ok true := by
  rw [keyLe_iff_inv ha hb] at h₁; rw [keyLe_iff_inv hb hc] at h₂; rw [keyLe_iff_inv ha hc]
  exact (Key.cmp_isCmp.tri a b c).1 h₁ h₂

theorem le_antisymm_inv (ha : KeyInv r a) (hb : KeyInv r b)
    (h₁ : keyLe a b = .ok true) (h₂ : keyLe b a = .ok true) : a = b := by
  rw [keyLe_iff_inv ha hb] at h₁; rw [keyLe_iff_inv hb ha, Key.cmp_isCmp.swap a b] at h₂
  exact Key.cmp_eq_zero.1 (by omega)

theorem lt_iff_not_le_inv (ha : KeyInv r a) (hb : KeyInv r b) :
    keyLt a b = .ok true ↔ keyLe b a = .ok false := by
  rw [keyLt_iff_inv ha hb, hb.keyLe_eq ha, Key.cmp_isCmp.swap a b]
  simp

/-- "not `b < a`" is exactly `a ≤ b` (what the order checker tests) -/
theorem not_lt_iff_le_inv (ha : KeyInv r a) (hb : KeyInv r b) :
    keyLt b a = .ok false ↔ keyLe a b = .ok true := by
  rw [keyLt_false_iff_inv hb ha, keyLe_iff_inv ha hb, Key.cmp_isCmp.swap a b]; omega

theorem lt_irrefl_inv (ha : KeyInv r a) : keyLt a a = .ok false := by
  rw [keyLt_false_iff_inv ha ha, Key.cmp_isCmp.self]; omega

theorem lt_trans_inv (ha : KeyInv r a) (hb : KeyInv r b) (hc : KeyInv r c)
    (h₁ : keyLt a b = .ok true) (h₂ : keyLt b c = .ok true) : keyLt a c = .ok true := by
  rw [keyLt_iff_inv ha hb] at h₁; rw [keyLt_iff_inv hb hc] at h₂; rw [keyLt_iff_inv ha hc]
  exact (Key.cmp_isCmp.tri a b c).2.1 h₁ (by omega)

end inv

section good
variable {o : Order} {cs : List Text} {a b c : Key}

theorem le_refl (ha : GoodKey o cs a) : keyLe a a = .ok true := le_refl_inv ha.inv
theorem le_total (ha : GoodKey o cs a) (hb : GoodKey o cs b) :
    keyLe a b = .ok true ∨ keyLe b a = .ok true := le_total_inv ha.inv hb.inv
theorem le_trans (ha : GoodKey o cs a) (hb : GoodKey o cs b) (hc : GoodKey o cs c)
    (h₁ : keyLe a b = .ok true) (h₂ : keyLe b c = .ok true) : keyLe a c = .ok true :=
  le_trans_inv ha.inv hb.inv hc.inv h₁ h₂
theorem le_antisymm (ha : GoodKey o cs a) (hb : GoodKey o cs b)
    (h₁ : keyLe a b = .ok true) (h₂ : keyLe b a = .ok true) : a = b :=
  le_antisymm_inv ha.inv hb.inv h₁ h₂
theorem lt_iff_not_le (ha : GoodKey o cs a) (hb : GoodKey o cs b) :
    keyLt a b = .ok true ↔ keyLe b a = .ok false := lt_iff_not_le_inv ha.inv hb.inv
theorem lt_irrefl (ha : GoodKey o cs a) : keyLt a a = .ok false := lt_irrefl_inv ha.inv
theorem lt_trans (ha : GoodKey o cs a) (hb : GoodKey o cs b) (hc : GoodKey o cs c)
    (h₁ : keyLt a b = .ok true) (h₂ : keyLt b c = .ok true) : keyLt a c = .ok true :=
  lt_trans_inv ha.inv hb.inv hc.inv h₁ h₂

end good

/-! ## (e) the documented order -/

/-- e. integers compare numerically -/
theorem cmpKV_int (a b : Int) :
    cmpKV (.int a) (.int b) = .ok (if a < b then -1 else if a = b then 0 else 1) :=
  cmpKV_eq_cmp (a := .int a) (b := .int b) trivial

/-- e. texts compare as Python strings (lexicographically by code point) -/
theorem cmpKV_str (a b : Text) :
    cmpKV (.str a) (.str b) = .ok (if a < b then -1 else if a = b then 0 else 1) :=
  cmpKV_eq_cmp (a := .str a) (b := .str b) trivial

/-- e. `None` sorts last -/
theorem cmpKV_none_last (v : KV) (h : v ≠ .none) :
    cmpKV v .none = .ok (-1) ∧ cmpKV .none v = .ok 1 ∧ cmpKV .none .none = .ok 0 := by
  cases v <;> simp_all [cmpKV]

/-- e. mixing an integer and a text is Python's `TypeError` -/
theorem cmpKV_int_str (i : Int) (s : Text) :
    cmpKV (.int i) (.str s) = .error .type ∧ cmpKV (.str s) (.int i) = .error .type :=
  ⟨cmpKV_incompat (a := .int i) (b := .str s) (fun h => h),
   cmpKV_incompat (a := .str s) (b := .int i) (fun h => h)⟩

/-- e. a position written as text is read as the integer it denotes -/
theorem posInt_intStr (i : Int) : posInt (.str (intStr i)) = .ok (.int i) := by
  simp [posInt, pyInt_intStr]

/-- e. hence text positions compare NUMERICALLY, not as text -/
theorem cmp_text_positions (i j : Int) :
    (do let a ← posInt (.str (intStr i)); let b ← posInt (.str (intStr j)); cmpKV a b) =
      .ok (if i < j then -1 else if i = j then 0 else 1) := by
  rw [posInt_intStr, posInt_intStr]
  exact cmpKV_int i j

/-- e. `cmpKey` is lexicographic over (tumor, normal, chromosome, start, stop): the first
    component whose comparison is not `0` decides (stated for the keys of the invariant) -/
theorem cmpKey_lex_inv {r : Bool} {a b : Key} (ha : KeyInv r a) (hb : KeyInv r b) :
    cmpKey a b = .ok (lexSign [KV.cmp a.tumor b.tumor, KV.cmp a.normal b.normal,
      KV.cmp a.chr b.chr, KV.cmp a.start b.start, KV.cmp a.stop b.stop]) := by
  rw [ha.cmpKey_eq hb, lexSign_cons, lexSign_cons, lexSign_cons, lexSign_cons,
    lexSign_singleton]
  rfl

/-- e. THE DOCUMENTED ORDER, on the records' own columns.  For two well-formed records keyed by
    the same `(o, cs)`, the comparison of their keys is the lexicographic combination
    (`lexSign`: first non-zero sign) of
    * tumor barcode and normal barcode as texts, `None` last — only for the barcode order;
    * the chromosome: by name (as text) without a contig list, by rank in the list with one;
    * start and end position as INTEGERS (whether stored as integers or as text), `None` last. -/
theorem documented_order {o : Order} {cs : List Text} {l₁ l₂ : Loc} {k₁ k₂ : Key}
    (h₁ : l₁.WF) (h₂ : l₂.WF) (e₁ : mkKey o cs l₁ = .ok k₁) (e₂ : mkKey o cs l₂ = .ok k₂) :
    cmpKey k₁ k₂ = .ok (lexSign [
      if o = .barcodesAndCoordinate then cmpOpt l₁.tumor.toText? l₂.tumor.toText? else 0,
      if o = .barcodesAndCoordinate then cmpOpt l₁.normal.toText? l₂.normal.toText? else 0,
      if cs = [] then cmpOpt l₁.chrName l₂.chrName else cmpOpt (l₁.chrRank cs) (l₂.chrRank cs),
      cmpOpt l₁.start.toInt? l₂.start.toInt?,
      cmpOpt l₁.stop.toInt? l₂.stop.toInt?]) := by
  rw [(mkKey_inv h₁ e₁).cmpKey_eq (mkKey_inv h₂ e₂)]
  obtain ⟨_, rfl⟩ := (mkKey_ok_iff h₁).1 e₁
  obtain ⟨_, rfl⟩ := (mkKey_ok_iff h₂).1 e₂
  rw [Loc.key_cmp o cs h₁ h₂]

/-- e. with a contig list both ranks exist, so the chromosome is compared by rank alone -/
theorem rank_exists {o : Order} {cs : List Text} {l : Loc} {k : Key} (hwf : l.WF) (hne : cs ≠ [])
    (e : mkKey o cs l = .ok k) : ∃ s i, l.chrName = some s ∧ cs.idxOf? s = some i ∧
      l.chrRank cs = some i ∧ k.chr = .int i := by
  obtain ⟨hc, rfl⟩ := (mkKey_ok_iff hwf).1 e
  obtain ⟨s, i, hs, hi, hr, hk⟩ := hc.rank hne
  exact ⟨s, i, hs, hi, hr, by cases o <;> exact hk⟩

/-- e. non-vacuity and a numeric-vs-text witness: positions "9" and "10" given as text; the record
    with "9" sorts first (as text "10" < "9") -/
example :
    let l₁ : Loc := { chr := .str "chr1".toList, start := .str "9".toList, stop := .str "9".toList }
    let l₂ : Loc := { chr := .str "chr1".toList, start := .str "10".toList, stop := .str "10".toList }
    l₁.WF ∧ l₂.WF ∧ "10".toList < "9".toList ∧
    ∃ k₁ k₂, mkKey .coordinate [] l₁ = .ok k₁ ∧ mkKey .coordinate [] l₂ = .ok k₂ ∧
      cmpKey k₁ k₂ = .ok (-1) ∧ keyLt k₁ k₂ = .ok true := by
  refine ⟨by decide, by decide, by decide, _, _, rfl, rfl, by decide, by decide⟩

/-- e. chromosome by rank, not by name, when a contig list is given: "chr2" before "chr10" -/
example :
    let cs : List Text := ["chr1".toList, "chr2".toList, "chr10".toList]
    let l₁ : Loc := { chr := .str "chr2".toList, start := .int 500, stop := .int 501 }
    let l₂ : Loc := { chr := .str "chr10".toList, start := .int 1, stop := .int 2 }
    l₁.WF ∧ l₂.WF ∧
    (∃ k₁ k₂, mkKey .coordinate cs l₁ = .ok k₁ ∧ mkKey .coordinate cs l₂ = .ok k₂ ∧
      cmpKey k₁ k₂ = .ok (-1)) ∧
    (∃ k₁ k₂, mkKey .coordinate [] l₁ = .ok k₁ ∧ mkKey .coordinate [] l₂ = .ok k₂ ∧
      cmpKey k₁ k₂ = .ok 1) := by
  refine ⟨by decide, by decide, ⟨_, _, rfl, rfl, by decide⟩, ⟨_, _, rfl, rfl, by decide⟩⟩

/-- e. barcodes are compared component by component, NOT as one joined text: the tumor
    barcode "T1" is a proper prefix of "T1A", so the record with "T1" sorts first, while the joined texts
    "tumor|normal" order the other way ('|' is above every letter and digit) -/
example :
    let l₁ : Loc := { tumor := .str "T1".toList, normal := .str "N".toList, chr := .str "chr1".toList, start := .int 5, stop := .int 6 }
    let l₂ : Loc := { tumor := .str "T1A".toList, normal := .str "N".toList, chr := .str "chr1".toList, start := .int 5, stop := .int 6 }
    "T1A|N".toList < "T1|N".toList ∧
    ∃ k₁ k₂, mkKey .barcodesAndCoordinate [] l₁ = .ok k₁ ∧ mkKey .barcodesAndCoordinate [] l₂ = .ok k₂ ∧
      cmpKey k₁ k₂ = .ok (-1) := by
  refine ⟨by decide, _, _, rfl, rfl, by decide⟩

end C08
