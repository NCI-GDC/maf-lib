/-
  C15 — A record stays coherent under edits.

  `MafRecord` keeps two indexes of its columns: a name map (`dict`) and a slot
  list (`slots`).  The invariant `Inv` says the two agree; it holds for the empty
  record, is preserved by every `record[key] = column` and `del record[key]`
  (whatever the key form, whatever index the column was preset with, whether the
  operation succeeds or raises) and by the inherited `popitem()` and `clear()`, a
  failing operation leaves the record untouched, and hence `Inv` holds in every
  reachable state.  Object identities (`oid`) are arbitrary.
-/
import MafModel.Lemmas.RecordLemmas
open Model Py

namespace C15

/-- the coherence invariant (see `Model.Record.Inv` for the field names) -/
def Inv (r : Record) : Prop :=
  (r.dict.map (·.1)).Nodup
  ∧ (∀ p ∈ r.dict, p.2.col.key = p.1 ∧
      ∃ i : Nat, p.2.col.index = some (i : Int) ∧ r.slots[i]? = some (some p.2))
  ∧ (∀ (i : Nat) (c : RCol), r.slots[i]? = some (some c) →
      c.col.index = some (i : Int) ∧ tdictGet r.dict c.col.key = some c)
  ∧ (r.slots = [] ∨ r.slots.getLast? ≠ some none)

/-- `Inv` is `Record.Inv`: its disjunct `r.slots = []` adds nothing, the last element of `[]` not
    being `some none` -/
theorem inv_iff (r : Record) : Inv r ↔ r.Inv :=
  ⟨fun ⟨h1, h2, h3, h4⟩ => ⟨h1, h2, h3, h4.elim (fun e => by simp [e]) id⟩,
    fun h => ⟨h.nodup, h.dict_ok, h.slot_ok, .inr h.last_ok⟩⟩

/- The theorems below are those of `Lemmas/RecordLemmas.lean` about `Record.Inv`, carried over by
   these two. -/
theorem Inv.model {r : Record} (h : Inv r) : r.Inv := (inv_iff r).1 h

theorem Inv.of_model {r : Record} (h : r.Inv) : Inv r := (inv_iff r).2 h

/-- what a client can observe of the two indexes -/
def observe (r : Record) : List (Option RCol) × List (Text × RCol) := (r.slots, r.dict)

inductive EditOp where
  | set (k : RKey) (x : RCol)
  | del (k : RKey)
  /-- `record.popitem()` (inherited from `MutableMapping`) -/
  | pop
  /-- `record.clear()` (inherited from `MutableMapping`) -/
  | clear

/-- apply one edit; a raising edit leaves the object in the state the model returns -/
def step (r : Record) : EditOp → Record
  | .set k x => (r.setItem k x).1
  | .del k => (r.delItem k).1
  | .pop => r.popItem.1
  | .clear => (Record.clear (r.slots.length + 1) r).1

/-! ### the invariant holds initially and is preserved -/

theorem inv_init : Inv {} := .of_model Record.Inv.init

/-- every key form, every column (any preset index), success or failure -/
theorem inv_setItem (r : Record) (key : RKey) (x : RCol) (h : Inv r) : Inv (r.setItem key x).1 :=
  .of_model (h.model.setItem key x)

theorem inv_delItem (r : Record) (key : RKey) (h : Inv r) : Inv (r.delItem key).1 :=
  .of_model ((delItem_atomic h.model key).inv h.model)

/-- a failing `record[key] = x` leaves the whole record (not only the observation) unchanged -/
theorem failed_noop_set_eq (r : Record) (key : RKey) (x : RCol) (e : PyErr)
    (he : (r.setItem key x).2 = .error e) (h : Inv r) : (r.setItem key x).1 = r :=
  (setItem_atomic h.model key x).noop he

theorem failed_noop_set (r : Record) (key : RKey) (x : RCol) (e : PyErr)
    (he : (r.setItem key x).2 = .error e) (h : Inv r) :
    observe (r.setItem key x).1 = observe r := by
  rw [failed_noop_set_eq r key x e he h]

/-- the failures of `setItem` on a coherent record are exactly the exceptions raised
    before any write; the `AssertionError` branch `(r1, .error .assertion)` and the
    `IndexError` of the list assignment are unreachable -/
theorem set_error_kinds (r : Record) (key : RKey) (x : RCol) (e : PyErr)
    (he : (r.setItem key x).2 = .error e) (h : Inv r) : e = .key ∨ e = .value ∨ e = .type :=
  (setItem_atomic h.model key x).error he

theorem set_assertion_unreachable (r : Record) (key : RKey) (x : RCol) (h : Inv r) :
    (r.setItem key x).2 ≠ .error .assertion ∧ (r.setItem key x).2 ≠ .error .index := by
  constructor <;> intro he <;> rcases set_error_kinds r key x _ he h with h | h | h <;> cases h

theorem failed_noop_del_eq (r : Record) (key : RKey) (e : PyErr)
    (he : (r.delItem key).2 = .error e) (h : Inv r) : (r.delItem key).1 = r :=
  (delItem_atomic h.model key).noop he

theorem failed_noop_del (r : Record) (key : RKey) (e : PyErr)
    (he : (r.delItem key).2 = .error e) (h : Inv r) :
    observe (r.delItem key).1 = observe r := by
  rw [failed_noop_del_eq r key e he h]

/-- `del record[key]` fails on a coherent record only when the lookup fails (or finds
    nothing): the `.error .type` / `.error .index` branches that would have already
    removed the name are unreachable -/
theorem del_error_from_lookup (r : Record) (key : RKey) (e : PyErr)
    (he : (r.delItem key).2 = .error e) (h : Inv r) :
    r.getItem key = .error e ∨ (r.getItem key = .ok none ∧ e = .key) :=
  (delItem_atomic h.model key).error he

/-- `popitem()` is a deletion: it keeps the record coherent -/
theorem inv_popItem (r : Record) (h : Inv r) : Inv r.popItem.1 :=
  .of_model ((popItem_atomic h.model).inv h.model)

/-- a failing `popitem()` (the empty record, an empty slot 0) leaves the record unchanged -/
theorem failed_noop_pop (r : Record) (e : PyErr) (he : r.popItem.2 = .error e) (h : Inv r) : r.popItem.1 = r :=
  (popItem_atomic h.model).noop he

/-- `clear()` keeps the record coherent, however many rounds it makes -/
theorem inv_clear (fuel : Nat) (r : Record) (h : Inv r) : Inv (Record.clear fuel r).1 :=
  .of_model (clear_spec h.model fuel).1

/-- on a coherent record `popitem()` fails with `KeyError` only (the empty record, an empty first position) -/
theorem pop_error_is_key (r : Record) (e : PyErr) (he : r.popItem.2 = .error e) (h : Inv r) : e = .key :=
  (popItem_atomic h.model).error he

/-- hence `clear()` never raises on a coherent record: every failure of `popitem()` is the `KeyError` it swallows -/
theorem clear_ok (fuel : Nat) (r : Record) (h : Inv r) : (Record.clear fuel r).2 = .ok () :=
  (clear_spec h.model fuel).2

theorem inv_step (r : Record) (op : EditOp) (h : Inv r) : Inv (step r op) := by
  cases op with
  | set k x => exact inv_setItem r k x h
  | del k => exact inv_delItem r k h
  | pop => exact inv_popItem r h
  | clear => exact inv_clear _ r h

/-- the invariant holds in every state reachable from the empty record -/
theorem inv_history (ops : List EditOp) : Inv (ops.foldl step {}) := by
  suffices ∀ r, Inv r → Inv (ops.foldl step r) from this _ inv_init
  induction ops with
  | nil => intro r h; exact h
  | cons op ops ih => intro r h; exact ih _ (inv_step r op h)

/-! ### consequences of the invariant -/

/-- lookups by name and by position agree: `record[name]` is `c` iff `c` carries that
    name and `record[i]` is `c` for the (natural) index `i` that `c` reports -/
theorem lookup_agree (r : Record) (h : Inv r) (n : Text) (c : RCol) :
    r.getItem (.name n) = .ok (some c) ↔
      c.col.key = n ∧ ∃ i : Nat, c.col.index = some (i : Int) ∧
        r.getItem (.int (i : Int)) = .ok (some c) := by
  have h' := h.model
  simp only [getItem_name_iff, getItem_int_iff]
  exact ⟨h'.get_ok, fun ⟨hk, i, _, hs⟩ => hk ▸ (h'.slot_ok i c hs).2⟩

/-- and conversely a positional lookup returns a column that the name lookup and the
    column-keyed lookup return as well -/
theorem lookup_agree_int (r : Record) (h : Inv r) (i : Int) (c : RCol)
    (hg : r.getItem (.int i) = .ok (some c)) :
    c.col.index = some i ∧ r.getItem (.name c.col.key) = .ok (some c) ∧
      r.getItem (.column c.col) = .ok (some c) := by
  by_cases hneg : i < 0
  · rw [getItem_int_neg r i hneg] at hg; cases hg
  · obtain ⟨n, rfl⟩ := Int.eq_ofNat_of_zero_le (by omega : 0 ≤ i)
    obtain ⟨hi, hd⟩ := h.model.slot_ok n c ((getItem_int_iff _ _ _).1 hg)
    exact ⟨hi, (getItem_name_iff _ _ _).2 hd, (getItem_column_iff _ _ _).2 hd⟩

/-- every stored column reports the index it is stored at -/
theorem index_reported (r : Record) (h : Inv r) (i : Nat) (c : RCol)
    (hs : r.slots[i]? = some (some c)) : c.col.index = some (i : Int) :=
  (h.model.slot_ok i c hs).1

/-- and a column stored under a name sits in the slot whose number it reports -/
theorem index_reported_dict (r : Record) (h : Inv r) (n : Text) (c : RCol)
    (hg : tdictGet r.dict n = some c) :
    ∃ i : Nat, c.col.index = some (i : Int) ∧ r.slots[i]? = some (some c) :=
  (h.model.get_ok hg).2

def highestPlusOne (r : Record) : Nat :=
  (r.dict.map (fun p => (p.2.col.index.getD 0).toNat + 1)).foldl max 0

theorem foldl_max_le_iff (l : List Nat) (a b : Nat) :
    l.foldl max a ≤ b ↔ a ≤ b ∧ ∀ x ∈ l, x ≤ b := by
  induction l generalizing a with
  | nil => simp
  | cons y l ih => simp [ih, Nat.max_le, and_assoc]

/-- `len(record)` is the highest occupied index + 1 (0 for the empty record):
    the last slot is occupied, and the length is the maximum of `index + 1` over the name map -/
theorem length_is_highest_plus_one (r : Record) (h : Inv r) :
    r.slots.length = highestPlusOne r ∧
    (r.slots.length ≠ 0 → ∃ c, r.slots[r.slots.length - 1]? = some (some c)) ∧
    (r.slots.length = 0 ↔ r.dict = []) := by
  have h' := h.model
  -- a stored column sits below the length
  have hlt : ∀ p ∈ r.dict, (p.2.col.index.getD 0).toNat + 1 ≤ r.slots.length := by
    intro p hp
    obtain ⟨_, i, hi, hs⟩ := h'.dict_ok p hp
    have := (List.getElem?_eq_some_iff.1 hs).1
    simp only [hi, Option.getD_some, Int.toNat_natCast]
    omega
  have hlast : r.slots.length ≠ 0 → ∃ c, r.slots[r.slots.length - 1]? = some (some c) := by
    intro hne
    have hl := h'.last_ok
    rw [List.getLast?_eq_getElem?, List.getElem?_eq_getElem (by omega)] at hl
    rw [List.getElem?_eq_getElem (by omega)]
    cases hx : r.slots[r.slots.length - 1] with
    | none => rw [hx] at hl; exact absurd rfl hl
    | some c => exact ⟨c, rfl⟩
  refine ⟨Nat.le_antisymm ?_ ?_, hlast, ?_, ?_⟩
  · -- the column in the last slot is stored, and reports `length - 1`
    by_cases hne : r.slots.length = 0
    · omega
    · obtain ⟨c, hc⟩ := hlast hne
      obtain ⟨hi, hd⟩ := h'.slot_ok _ c hc
      have := ((foldl_max_le_iff _ 0 _).1 (Nat.le_refl (highestPlusOne r))).2 _
        (List.mem_map.2 ⟨_, mem_of_tdictGet hd, rfl⟩)
      simp only [hi, Option.getD_some, Int.toNat_natCast] at this
      omega
  · exact (foldl_max_le_iff _ 0 _).2 ⟨Nat.zero_le _, List.forall_mem_map.2 hlt⟩
  · intro h0
    cases hd : r.dict with
    | nil => rfl
    | cons p d => have := hlt p (hd ▸ List.mem_cons_self); omega
  · intro hd
    by_cases hne : r.slots.length = 0
    · exact hne
    · obtain ⟨c, hc⟩ := hlast hne
      have := mem_of_tdictGet (h'.slot_ok _ c hc).2
      rw [hd] at this; cases this

/-- `list(record)` lists the names in index order, pointwise: position `i` shows name `n`
    iff the column stored under `n` reports index `i` -/
theorem keys_in_index_order (r : Record) (h : Inv r) (i : Nat) (n : Text) :
    r.keys[i]? = some (some n) ↔
      ∃ c, tdictGet r.dict n = some c ∧ c.col.index = some (i : Int) := by
  have h' := h.model
  simp only [Record.keys, List.getElem?_map]
  constructor
  · intro hk
    cases hs : r.slots[i]? with
    | none => simp [hs] at hk
    | some o =>
      cases o with
      | none => simp [hs] at hk
      | some c =>
        obtain rfl : c.col.key = n := by simpa [hs] using hk
        exact ⟨c, (h'.slot_ok i c hs).2, (h'.slot_ok i c hs).1⟩
  · rintro ⟨c, hd, hi⟩
    obtain ⟨hk, j, hj, hs⟩ := h'.get_ok hd
    obtain rfl : i = j := Int.natCast_inj.1 (Option.some.inj (hi.symm.trans hj))
    simp [hs, hk]

/-- … and globally: the names shown (skipping empty slots) are the names of the stored
    columns sorted by `column_index` -/
theorem keys_sorted_by_index (r : Record) (h : Inv r) :
    r.keys.filterMap id =
      ((r.dict.map (·.2)).mergeSort (fun a b => decide (a.idx ≤ b.idx))).map (·.col.key) := by
  rw [h.model.sorted_values, Record.keys, List.filterMap_map, List.map_filterMap]
  congr 1

/-- `str(record)` has exactly one field per slot (the list that is joined with TABs has
    `len(record)` = `len(list(record))` entries) -/
theorem render_field_count (C : Ctx) (r : Record) (h : Inv r) (t : Text)
    (hr : r.render C = .ok t) :
    ∃ fields : List Text, t = joinWith '\t' fields ∧ fields.length = r.slots.length ∧
      fields.length = r.keys.length ∧ fields.length = highestPlusOne r := by
  unfold Record.render at hr
  generalize hm : List.mapM (m := Except PyErr) (β := Text) _ r.slots = res at hr
  cases res with
  | error e => cases hr
  | ok fs =>
    have hl := mapM_ok_length _ _ _ hm
    exact ⟨fs, (Except.ok.inj hr).symm, hl, by simp [Record.keys, hl],
      hl.trans (length_is_highest_plus_one r h).1⟩

/-! ### non-vacuity: a reachable state with a gap -/

def colA : RCol := { oid := 7, col := { cls := "MafColumnRecord", key := "a".toList, value := .atom (.str "x".toList), index := none } }
def colC : RCol := { oid := 7, col := { cls := "MafColumnRecord", key := "c".toList, value := .atom (.int 3), index := some 2 } }
def colB : RCol := { oid := 1, col := { cls := "MafColumnRecord", key := "b".toList, value := .atom .none, index := some 2 } }

def demoOps : List EditOp :=
  [.set (.int 0) colA, .set (.name "c".toList) colC, .set (.column colB.col) colB, .del (.int 5)]

/-- the state reached has a gap, the clashing third assignment and the bad delete were refused -/
example : (demoOps.foldl step {}).slots =
    [some { colA with col := { colA.col with index := some 0 } }, none, some colC] := by decide

example : Inv (demoOps.foldl step {}) := inv_history demoOps

example : ((demoOps.foldl step {}).setItem (.column colB.col) colB).2 = .error .value := by
  rfl

/-- deleting the last column also drops the gap before it: the length is again highest index + 1 -/
example : ((demoOps ++ [EditOp.del (.name "c".toList)]).foldl step {}).slots =
    [some { colA with col := { colA.col with index := some 0 } }] := by decide

/-- `popitem()` takes the first position and leaves a gap there; a second one meets the gap and fails with `KeyError`,
    leaving the record as it was; `clear()` therefore stops after one round on a record with a gap after slot 0 -/
example : ((demoOps ++ [EditOp.pop]).foldl step {}).slots = [none, none, some colC] := by decide

example : ((demoOps ++ [EditOp.pop]).foldl step {}).popItem.2 = .error .key := by rfl

example : ((demoOps ++ [EditOp.clear]).foldl step {}).slots = [none, none, some colC] := by decide

/-- on a record without gaps `clear()` also stops after the first round (slot 0 is then a gap): the inherited
    `clear` empties a `MafRecord` only when it holds a single column -/
example : (([EditOp.set (.int 0) colA, EditOp.clear] : List EditOp).foldl step {}).slots = [] := by decide

end C15
