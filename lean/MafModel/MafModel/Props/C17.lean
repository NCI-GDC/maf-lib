/-
  C17 — the reader's error list is compositional, in file order, and its line numbers are the
  physical line numbers.

  Notation (definitions in `Lemmas/ReaderLemmas.lean`):
  * `stripped lines`      — the input lines without their line ends;
  * `headerBlock K lines` — the maximal prefix of `stripped lines` whose elements start with the
                            start symbol; `headerLen K lines` (`k`) is its length;
  * the column-name line is `(stripped lines)[k]?`, physical line `k + 1`;
  * `dataLines K lines`   — `(stripped lines).drop (k + 1)`; data line `j` is physical line `k + 2 + j`;
  * `recordErrors C sch m n l` — the errors `Record.fromLine C l none sch (some n) (some m)` collects
                            (with the ghost origin `n` that `__next__` stamps on them);
  * `initErrorsOf K R lines given hd` — the scheme-mismatch / column-name errors of `__init__`.
-/
import MafModel.Props.C16
open Py Model
namespace C17

variable {C : Ctx} {K : HConsts} {R : Registry} {lines : List Text} {mode : Option Mode}
  {given : Option Scheme} {r r' : Reader} {recs : List Record}

/-- the errors of the header block, as `MafHeader.from_lines` collects them -/
def headerErrors (K : HConsts) (R : Registry) (lines : List Text) (mode : Option Mode) : List VErr :=
  (Header.fromLines K R ((stripped lines).take (headerLen K lines)) (some (modeOrSilent mode))).1.errors

theorem init_state (hinit : Reader.init C K R lines mode given = .ok r) :
    r.header = (Header.fromLines K R ((stripped lines).take (headerLen K lines)) (some (modeOrSilent mode))).1 ∧
    r.mode = modeOrSilent mode ∧
    r.scheme = schemeOf K R lines given r.header ∧
    r.errors = headerErrors K R lines mode ++ initErrorsOf K R lines given r.header ∧
    At lines r (min (headerLen K lines + 1) lines.length) := by
  obtain ⟨lg, rfl⟩ := init_ok hinit
  unfold headerErrors
  rw [← headerBlock_eq_take, fromLines_spec]
  exact ⟨rfl, rfl, rfl, rfl, init_at hinit⟩

/-- **C17 (compositional error list), general form.**  Whichever way the whole-file reading ends,
    the reader's error list is: the header errors, then the scheme / column-name errors, then the
    errors of the first `j` data lines in file order — where `j` is the number of records returned,
    plus one if it was the order checker that stopped the iteration (the offending record had
    already been parsed). -/
theorem compositional_prefix (hinit : Reader.init C K R lines mode given = .ok r) :
    ∃ j, (r.readAll C K).1.length ≤ j ∧ j ≤ (r.readAll C K).1.length + 1 ∧
      j ≤ (dataLines K lines).length ∧
      (r.readAll C K).2.2.errors =
        headerErrors K R lines mode ++ initErrorsOf K R lines given r.header ++
          ((dataLines K lines).take j).zipIdx.flatMap
            (fun p => recordErrors C r.scheme r.mode (headerLen K lines + 2 + p.2) p.1) ∧
      ((r.readAll C K).2.1 = none →
        j = (dataLines K lines).length ∧ (r.readAll C K).1.length = (dataLines K lines).length) := by
  obtain ⟨_, _, _, herr, hat⟩ := init_state hinit
  obtain ⟨j, h⟩ := readAll_spec (C := C) (K := K) hat rfl
  refine ⟨j, h.length_le, h.le_length_succ, h.state.le, ?_, h.complete⟩
  rw [h.state.errors, herr]
  rfl

/-- **C17 (compositional error list).**  If the reader is constructed and the whole file is read
    without an exception (for `Silent` / `Lenient` and an order that is not sortable this is always
    so, see `C16.nonstrict_unsorted_total`), then the reader's error list is exactly

      header errors ++ scheme / column-name errors ++ (errors of data line 0) ++ (errors of data line 1) ++ …

    where the errors of data line `j` are those `Record.fromLine` collects for it when told it is
    line `k + 2 + j`.  No error is lost, duplicated or reordered. -/
theorem compositional (hinit : Reader.init C K R lines mode given = .ok r)
    (hread : r.readAll C K = (recs, none, r')) :
    r'.errors =
      headerErrors K R lines mode ++ initErrorsOf K R lines given r.header ++
        (dataLines K lines).zipIdx.flatMap
          (fun p => recordErrors C r.scheme r.mode (headerLen K lines + 2 + p.2) p.1) := by
  obtain ⟨j, _, _, _, herr, hnone⟩ := compositional_prefix hinit
  rw [hread] at herr hnone
  obtain ⟨rfl, _⟩ := hnone rfl
  simpa using herr

/-- **`from_line` reports the line number it was given** (`n`) on EVERY error it collects — none is
    left without a line number (the closing re-validation, which would report without one, finds
    nothing: every stored column has already passed its value check).
    (Stated for the model's `Record.fromLine` itself.) -/
theorem fromLine_line_numbers {l : Text} {names : Option (List Text)} {sch : Option Scheme} {n : Nat}
    {m : Option Mode} {rec : Record} {lg : List LogRec}
    (h : Record.fromLine C l names sch (some n) m = .ok (rec, lg)) :
    ∀ e ∈ rec.errors, e.line = some n := by
  obtain ⟨prec, hp, _, rfl⟩ := fromLine_ok h
  exact (parsedLine_lines_all hp).2

/-- every error the reader collects for a data line carries that line's physical number -/
theorem record_errors_carry_line {sch : Option Scheme} {m : Mode} {n : Nat} {l : Text} {e : VErr}
    (he : e ∈ recordErrors C sch m n l) : e.line = some n ∧ e.origin = some n :=
  ⟨(recordErrors_lines he).2, (recordErrors_lines he).1⟩

/-- the scheme / column-name errors: `HEADER_MISMATCH_SCHEME` carries no line number, every
    column-name error carries the number `k + 1` of the column-name line -/
theorem initErrors_lines {hd : Header} {e : VErr} (he : e ∈ initErrorsOf K R lines given hd) :
    (e.line = none ∧ e.tpe = "HEADER_MISMATCH_SCHEME") ∨
    (e.line = some (headerLen K lines + 1) ∧ e.origin = some (headerLen K lines + 1)) := by
  rcases List.mem_append.1 he with h | h
  · exact .inl (initE1_lines h)
  · exact .inr (initE2_lines h)

/-- a file without a column-name line: `HEADER_MISSING_COLUMN_NAMES` is reported at line `k + 1` -/
theorem missing_column_names {hd : Header} (h : (stripped lines)[headerLen K lines]? = none) :
    { tpe := "HEADER_MISSING_COLUMN_NAMES", line := some (headerLen K lines + 1),
      origin := some (headerLen K lines + 1) } ∈ initErrorsOf K R lines given hd := by
  unfold initErrorsOf colNamesOf
  rw [h]
  simp [initE2_missing]

/-- **C17 (line numbers).**  Every error of the reader that carries a line number `n` is about
    physical line `n` of the input (`origin`, the ghost field, is the line the error was produced
    for), and:
    * `1 ≤ n ≤ k`: it is the diagnosis of header line `n`, i.e. of `(stripped lines)[n-1]`
      (`HeaderDiag`: what `HRec.fromLine` answers for that line, or its `HEADER_DUPLICATE_KEYS`);
    * `n = k + 1`: it is one of the column-name errors;
    * `n = k + 2 + j`: it is one of the errors `Record.fromLine` collects for data line `j`.
    This holds whichever way the reading ended. -/
theorem line_numbers (hinit : Reader.init C K R lines mode given = .ok r) :
    ∀ e ∈ (r.readAll C K).2.2.errors, ∀ n, e.line = some n →
      e.origin = some n ∧
      ((1 ≤ n ∧ n ≤ headerLen K lines ∧ HeaderDiag K (headerBlock K lines) 1 e) ∨
       (n = headerLen K lines + 1 ∧ e ∈ initErrorsOf K R lines given r.header) ∨
       (∃ j, ∃ hj : j < (dataLines K lines).length, n = headerLen K lines + 2 + j ∧
          e ∈ recordErrors C r.scheme r.mode (headerLen K lines + 2 + j) (dataLines K lines)[j])) := by
  intro e he n hn
  obtain ⟨j, _, _, _, herr, _⟩ := compositional_prefix hinit
  rw [herr] at he
  rcases List.mem_append.1 he with he | he
  · rcases List.mem_append.1 he with he | he
    · unfold headerErrors at he
      rw [← headerBlock_eq_take, fromLines_spec] at he
      obtain ⟨perLine, whole, hsplit, hper, hwhole⟩ := parsedHeader_errors K R (headerBlock K lines)
      simp only [Header.withMode_errors] at he
      rw [hsplit] at he
      rcases List.mem_append.1 he with he | he
      · have hd := hper e he
        obtain ⟨i, hi, hl, ho, _⟩ := hper e he
        rw [hn] at hl
        simp only [Option.some.injEq] at hl
        refine ⟨by rw [ho, hl], .inl ⟨by omega, ?_, hd⟩⟩
        have : i < headerLen K lines := hi
        omega
      · rw [(hwhole e he).1] at hn; cases hn
    · rcases initErrors_lines he with ⟨h1, _⟩ | ⟨h1, h2⟩
      · rw [h1] at hn; cases hn
      · rw [hn] at h1
        simp only [Option.some.injEq] at h1
        exact ⟨by rw [h2, h1], .inr (.inl ⟨h1, he⟩)⟩
  · obtain ⟨i, hi, _, hei⟩ := mem_errsUpTo (f := fun i l => recordErrors C r.scheme r.mode (headerLen K lines + 2 + i) l) he
    obtain ⟨ho, hl⟩ := recordErrors_lines hei
    rw [hn] at hl
    simp only [Option.some.injEq] at hl
    exact ⟨by rw [ho, hl], .inr (.inr ⟨i, hi, hl, hei⟩)⟩

/-- the ghost-field form of C17: a reported line number is the line the error was produced for -/
theorem line_eq_origin (hinit : Reader.init C K R lines mode given = .ok r) :
    ∀ e ∈ (r.readAll C K).2.2.errors, ∀ n, e.line = some n → e.origin = some n :=
  fun e he n hn => (line_numbers hinit e he n hn).1

/-! ### non-vacuity: the five-line example file of `Lemmas/ReaderExample.lean` -/
section examples
open Model.ReaderExample

private def tags (es : List VErr) : List (String × Option Nat × Option Nat) :=
  es.map (fun e => (e.tpe, e.line, e.origin))

/-- The hypotheses of `compositional` are met by the example file read in Silent mode, and the
    theorem computes its error list: the malformed header line 2, the two whole-header errors
    (no line number), and the short record on line 5 — in file order, with the physical line
    numbers. -/
example : ∃ r recs r', Reader.init exC exK exR exLines (some .silent) none = .ok r ∧
    r.readAll exC exK = (recs, none, r') ∧
    tags r'.errors =
      [("HEADER_LINE_MISSING_SEPARATOR", some 2, some 2), ("HEADER_UNSUPPORTED_VERSION", none, none),
       ("HEADER_MISSING_ANNOTATION_SPEC", none, none),
       ("RECORD_MISMATCH_NUMBER_OF_COLUMNS", some 5, some 5)] := by
  have hr := init_silent exC exK exR exLines none
  obtain ⟨hsort, hsch, herrs⟩ : ((silentReader exK exR exLines none).header.sortOrder exK).1.sortable = false ∧
      (silentReader exK exR exLines none).scheme =
        some (noRestrictionsScheme ["Chromosome", "Start_Position", "End_Position"]) ∧
      tags (silentReader exK exR exLines none).errors = [("HEADER_LINE_MISSING_SEPARATOR", some 2, some 2),
        ("HEADER_UNSUPPORTED_VERSION", none, none), ("HEADER_MISSING_ANNOTATION_SPEC", none, none)] := by
    decide +kernel
  have hmode : (silentReader exK exR exLines none).mode = .silent := rfl
  obtain ⟨recs, r', hread, _⟩ := C16.nonstrict_unsorted_total (C := exC) (by intro g h; cases h)
    (by intro s h; cases h) hr (by decide) hsort
  refine ⟨_, recs, r', hr, hread, ?_⟩
  have hcomp := compositional hr hread
  rw [← (init_state hr).2.2.2.1, hsch, hmode] at hcomp
  rw [hcomp]
  have hD : dataLines exK exLines = ["chr1\t10\t20".toList, "chr2\t5".toList] := by decide +kernel
  have hk : headerLen exK exLines = 2 := by decide +kernel
  have hnd := noRestrictionsScheme_names_nodup ["Chromosome", "Start_Position", "End_Position"]
  simp only [hD, hk, tags, List.map_append, List.zipIdx_cons, List.zipIdx_nil, List.flatMap_cons,
    List.flatMap_nil, List.append_nil, recordErrors_eval exC hnd (m := .silent) (by decide)]
  simp only [tags] at herrs
  rw [herrs]
  decide +kernel

end examples

end C17
