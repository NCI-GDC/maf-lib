/-
  Table obligation for the record-level C01 theorems.  In its own file: it is a
  large `decide +kernel`, re-checked whenever the generated tables change.
-/
import MafModel.Props.C01Record
import MafModel.Lemmas.Builtin
open Model Py Spec

namespace C01Tables

open C01Record in
/-- the hypotheses of the record-level theorems (`C01Record.Hyp`) hold for every built-in
    scheme of the generated tables; the context needs the class table only -/
theorem builtin_schemes_ok :
    (match Builtin.built with
     | .ok (st, ss) => ss.all (fun p => hypCheck { tbl := st.tbl, enums := [], H := ⟨fun _ => none⟩ } p.2)
     | .error _ => false) = true := by decide +kernel


end C01Tables
