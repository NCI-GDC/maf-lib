/-
  C11 / C12 / C19 — the overlap predicates of `LocatableOverlapIterator` (maflib/overlap_iter.py), translated from the
  source on every run and interpreted, are the hand model's `overlapsHead`: same chromosome (and, with barcode
  grouping, the same barcode pair) and `lo.start ≤ cur.start ≤ lo.end`, read from the *current* `end` of the running
  minimum (the loop widens it in place).
-/
import MafModel.Lemmas.BodiesEmb
import MafModel.Model.SortOrder
import MafModel.Model.Overlap
open Py PyIR Bodies Model

namespace C11Bodies

def embKV : KV → Val
  | .none => .none
  | .int i => .int i
  | .str s => .str s

/-- a `_CoordinateKey` object as `Locatable.__init__` leaves it -/
def coordKey (chr : KV) (start stop : Int) : Val :=
  .obj "_CoordinateKey" [("_chromosome", embKV chr), ("_start", .int start), ("_end", .int stop)]

/-- interpret `LocatableOverlapIterator.__overlaps(min_key, cur_key)` -/
def overlapsRun (H : Host) (a b : Val) : Except PyErr Val :=
  (run Generated.Bodies.program H "LocatableOverlapIterator" "_LocatableOverlapIterator__overlaps"
    [.cls "LocatableOverlapIterator", a, b]).map (·.1)

-- evaluating a run by `whnf`: plain delta/iota reduction is far cheaper than smart unfolding here (see `C06Bodies`)
set_option smartUnfolding false

/-- split at the head query of the tree: the head is computed (`rfl`), the subtrees stay unevaluated -/
macro "ask_split" h:ident : tactic => `(tactic| refine Tree.Forall.ask_of rfl (fun $h => ?_) (fun $h => ?_))

set_option hygiene false in
macro "fin" : tactic => `(tactic| (tree_leaf; simp only [Query.holds, beq_iff_eq, decide_eq_true_eq, decide_eq_false_iff_not, beq_eq_false_iff_ne, ne_eq] at *; simp [Except.map]; try (first | omega | (simp_all; done) | (simp_all; omega))))

/-- the walk over `lo.start ≤ cur.start ≤ lo.end` once the chromosome test has come out true -/
macro "positions" : tactic => `(tactic| (
  ask_split h2
  · ask_split h3
    · fin
    · ask_split h4
      · fin
      · fin
  · ask_split h3
    · ask_split h4
      · fin
      · ask_split h5
        · fin
        · fin
    · fin))

set_option hygiene false in
/-- the chromosome test on components `c`, `d` (missing / contig rank / name: equal kinds are compared, different
    kinds differ), then `positions` -/
macro "chromosomes" : tactic => `(tactic| (
  cases c with
  | none => cases d with
    | none => positions
    | int j => fin
    | str t => fin
  | int i => cases d with
    | none => fin
    | int j =>
      ask_split h1
      · positions
      · fin
    | str t => fin
  | str u => cases d with
    | none => fin
    | int j => fin
    | str t =>
      ask_split h1
      · positions
      · fin))

/-- `__overlaps` on two coordinate keys: same chromosome and `lo.start ≤ cur.start ≤ lo.end` -/
theorem overlaps_eq (H : Host) (c d : KV) (s e s' e' : Int) :
    overlapsRun H (coordKey c s e) (coordKey d s' e')
      = .ok (.bool (decide (c = d) && decide (s ≤ s') && decide (s' ≤ e))) := by
  refine Tree.Forall.eval (H := H) (t := runTree Generated.Bodies.program H "LocatableOverlapIterator" "_LocatableOverlapIterator__overlaps"
      [.cls "LocatableOverlapIterator", coordKey c s e, coordKey d s' e'])
    (P := fun (r : Except PyErr (Val × Env)) => Except.map (·.1) r = .ok (.bool (decide (c = d) && decide (s ≤ s') && decide (s' ≤ e)))) ?_
  chromosomes


/-- a `_BarcodesAndCoordinateKey` object: the two barcode attributes, then what `Locatable.__init__` sets -/
def barcodeKey (tb nb chr : KV) (start stop : Int) : Val :=
  .obj "_BarcodesAndCoordinateKey" [("tumor_barcode", embKV tb), ("normal_barcode", embKV nb),
    ("_chromosome", embKV chr), ("_start", .int start), ("_end", .int stop)]

def overlapsBarcodeRun (H : Host) (a b : Val) : Except PyErr Val :=
  (run Generated.Bodies.program H "LocatableOverlapIterator" "_LocatableOverlapIterator__overlaps_with_barcode"
    [.cls "LocatableOverlapIterator", a, b]).map (·.1)

def L : String := "LocatableOverlapIterator"
def ovFn : FnDef := Generated.Bodies.LocatableOverlapIterator___LocatableOverlapIterator__overlaps

/-- the callee at any sufficient fuel -/
theorem overlaps_call (H : Host) (n : Nat) (tb nb tb' nb' c d : KV) (s e s' e' : Int) :
    (Tree.eval H (callFn Generated.Bodies.program H (n + 20) ovFn [.cls L, barcodeKey tb nb c s e, barcodeKey tb' nb' d s' e'])).map (·.1)
      = .ok (.bool (decide (c = d) && decide (s ≤ s') && decide (s' ≤ e))) := by
  refine Tree.Forall.eval (H := H) (t := callFn Generated.Bodies.program H (n + 20) ovFn [.cls L, barcodeKey tb nb c s e, barcodeKey tb' nb' d s' e'])
    (P := fun (r : Except PyErr (Val × Env)) => Except.map (·.1) r = .ok (.bool (decide (c = d) && decide (s ≤ s') && decide (s' ≤ e)))) ?_
  chromosomes

/-- `__overlaps` reads only the coordinate attributes: on barcode keys it is the same predicate -/
theorem overlaps_barcodeKey (H : Host) (tb nb tb' nb' c d : KV) (s e s' e' : Int) :
    overlapsRun H (barcodeKey tb nb c s e) (barcodeKey tb' nb' d s' e')
      = .ok (.bool (decide (c = d) && decide (s ≤ s') && decide (s' ≤ e))) :=
  overlaps_call H 44 tb nb tb' nb' c d s e s' e'

/-- the model's reading of a coordinate key: chromosome component, start, end -/
def coordOps : OvOps (KV × Int × Int) where
  lt := fun _ _ => false
  same := fun a b => decide (a.1 = b.1)
  start := fun a => a.2.1
  stop := fun a => a.2.2

/-- the translated `__overlaps`, read on the running minimum `lo` whose `end` has been widened to `hi`, is the model's
    `overlapsHead` (what `Model.sweepPass` tests each head with) -/
theorem overlaps_eq_overlapsHead (H : Host) (lo cur : KV × Int × Int) (hi : Int) :
    overlapsRun H (coordKey lo.1 lo.2.1 hi) (coordKey cur.1 cur.2.1 cur.2.2)
      = .ok (.bool (overlapsHead coordOps lo hi cur)) := by
  rw [overlaps_eq]; rfl

example : overlapsHead coordOps (.str "1".toList, 3, 9) 12 (.str "1".toList, 10, 11) = true := by decide

end C11Bodies
