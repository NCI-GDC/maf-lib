/-
  Property C11 — the overlap iterator (`LocatableOverlapIterator`, model `Model.ovAll`)
  emits exactly the connected components of the closed-interval overlap graph of its
  inputs, in key order.

  Setting (`MafModel/Lemmas/OverlapLemmas.lean`):
  * `ops.Lawful cls`   : `ops.lt` is the lexicographic order on (class, start, stop) for a class
                         function `cls : κ → γ` into a linear order, `ops.same` compares classes;
  * `SortedInputs ops iters` : every input is sorted (`Pairwise (fun a b => ops.lt b a = false)`);
  * `ClosedInputs ops iters` : every item of every input has `start ≤ stop`;
  * `Overlap ops cls a b`    : `cls a = cls b ∧ start a ≤ stop b ∧ start b ≤ stop a`;
  * `Linked ops cls S a b`   : a chain of members of `S` from `a` to `b`, consecutive ones overlapping;
  * `Before ops cls a b`     : `cls a < cls b ∨ (cls a = cls b ∧ stop a < start b)`.

  The key type `κ` is abstract and the hypotheses only constrain `cls`, `start`, `stop`, so `κ` may
  carry an identity (input index, position): *occurrences* are elements of `κ`, and the theorems
  hold with duplicates (equal keys) as well.  Groups are addressed by position in the emitted list
  (`List.Pairwise` over the list of groups), which is occurrence-precise: by `partition` every
  occurrence `iters[i][p]` sits in exactly one slot of exactly one group.  The section "occurrences
  made explicit" spells this out by tagging items with `(input index, position)` (`tagged_run`,
  `complete_occ`).
-/
import Mathlib.Data.Nat.Basic
import MafModel.Lemmas.OverlapLemmas

open Model

namespace C11

variable {κ γ : Type} [LinearOrder γ] {ops : OvOps κ} {cls : κ → γ}

/-! ### 0. the fuel suffices -/

/-- With `fuel ≥ totalLen' iters + 1` the result does not depend on the fuel:
    `ovAll` stops because the inputs are exhausted, never because the fuel ran out. -/
theorem fuel_suffices (L : ops.Lawful cls) {iters : List (List κ)}
    (hs : SortedInputs ops iters) (hc : ClosedInputs ops iters) {fuel : Nat}
    (hf : totalLen' iters + 1 ≤ fuel) :
    ovAll ops fuel iters = ovAll ops (totalLen' iters + 1) iters :=
  ovAll_fuel_eq L hs hc hf (Nat.le_refl _)

/-! ### 1. partition -/

/-- Every emitted group has one slot per input. -/
theorem group_length (L : ops.Lawful cls) {iters : List (List κ)}
    (hs : SortedInputs ops iters) (hc : ClosedInputs ops iters) {fuel : Nat}
    (hf : totalLen' iters + 1 ≤ fuel) :
    ∀ g ∈ ovAll ops fuel iters, g.length = iters.length :=
  (ovAll_groups L fuel iters hs hc hf).length_eq

/-- For every input index `i`, concatenating slot `i` over all groups, in emission order,
    gives exactly `iters[i]`: nothing is lost, duplicated or reordered. -/
theorem partition (L : ops.Lawful cls) {iters : List (List κ)}
    (hs : SortedInputs ops iters) (hc : ClosedInputs ops iters) {fuel : Nat}
    (hf : totalLen' iters + 1 ≤ fuel) :
    ∀ i (hi : i < iters.length),
      ((ovAll ops fuel iters).map (fun g => g.getD i [])).flatten = iters[i] :=
  (ovAll_groups L fuel iters hs hc hf).partition

/-- Consequence of `partition`: the members of the groups are exactly the input items. -/
theorem mem_groups_iff (L : ops.Lawful cls) {iters : List (List κ)}
    (hs : SortedInputs ops iters) (hc : ClosedInputs ops iters) {fuel : Nat}
    (hf : totalLen' iters + 1 ≤ fuel) (x : κ) :
    x ∈ iters.flatten ↔ ∃ g ∈ ovAll ops fuel iters, x ∈ g.flatten :=
  (ovAll_groups L fuel iters hs hc hf).mem_iff x

/-! ### 2. non-empty groups -/

/-- Every emitted group has at least one non-empty slot. -/
theorem nonempty (L : ops.Lawful cls) {iters : List (List κ)}
    (hs : SortedInputs ops iters) (hc : ClosedInputs ops iters) {fuel : Nat}
    (hf : totalLen' iters + 1 ≤ fuel) :
    ∀ g ∈ ovAll ops fuel iters, ∃ s ∈ g, s ≠ [] := by
  intro g hg
  obtain ⟨x, hx⟩ := (ovAll_groups L fuel iters hs hc hf).nonempty g hg
  obtain ⟨s, hs', hxs⟩ := List.mem_flatten.1 hx
  exact ⟨s, hs', List.ne_nil_of_mem hxs⟩

/-! ### 3. soundness: a group is connected -/

/-- Any two members of one group are linked by a chain of pairwise-overlapping members of
    that group. -/
theorem sound (L : ops.Lawful cls) {iters : List (List κ)}
    (hs : SortedInputs ops iters) (hc : ClosedInputs ops iters) {fuel : Nat}
    (hf : totalLen' iters + 1 ≤ fuel) :
    ∀ g ∈ ovAll ops fuel iters, ∀ a ∈ g.flatten, ∀ b ∈ g.flatten,
      Linked ops cls (· ∈ g.flatten) a b :=
  (ovAll_groups L fuel iters hs hc hf).linked

/-! ### 4. order of emission (`complete` in section 5 follows from `separated`) -/

/-- Groups are separated and emitted in order: every member `b` of a later group lies strictly
    beyond every member `a` of an earlier group — its class is larger, or it has the same class and
    starts after `a` stops.  As the earlier group's final `hi` is the largest `stop` of its members,
    this says `b.start > hi` or `cls b` is larger. -/
theorem separated (L : ops.Lawful cls) {iters : List (List κ)}
    (hs : SortedInputs ops iters) (hc : ClosedInputs ops iters) {fuel : Nat}
    (hf : totalLen' iters + 1 ≤ fuel) :
    (ovAll ops fuel iters).Pairwise
      (fun g1 g2 => ∀ a ∈ g1.flatten, ∀ b ∈ g2.flatten, Before ops cls a b) :=
  (ovAll_groups L fuel iters hs hc hf).separated

/-- Groups are emitted in key order: every member of a later group has key strictly greater than
    (`lt a b`), in particular not less than (`¬ lt b a`), every member of every earlier group. -/
theorem ordered (L : ops.Lawful cls) {iters : List (List κ)}
    (hs : SortedInputs ops iters) (hc : ClosedInputs ops iters) {fuel : Nat}
    (hf : totalLen' iters + 1 ≤ fuel) :
    (ovAll ops fuel iters).Pairwise
      (fun g1 g2 => ∀ a ∈ g1.flatten, ∀ b ∈ g2.flatten,
        ops.lt a b = true ∧ ops.lt b a = false) := by
  refine (separated L hs hc hf).imp_of_mem ?_
  intro g1 g2 hg1 _ hsep a ha b hb
  have hca : ops.Closed a :=
    AllItems.flatten hc a ((mem_groups_iff L hs hc hf a).2 ⟨g1, hg1, ha⟩)
  have hlt := L.lt_of_before hca (hsep a ha b hb)
  exact ⟨hlt, L.lt_asymm hlt⟩

/-- The minimum key `lo` of a group (the first minimal head of its slots, `minKey`) is a member of
    the group, so by `ordered` every member of a later group has key `≥ lo`. -/
theorem ordered_lo (L : ops.Lawful cls) {iters : List (List κ)}
    (hs : SortedInputs ops iters) (hc : ClosedInputs ops iters) {fuel : Nat}
    (hf : totalLen' iters + 1 ≤ fuel) :
    (ovAll ops fuel iters).Pairwise
      (fun g1 g2 => ∀ lo, minKey ops (heads g1) = some lo → ∀ b ∈ g2.flatten,
        ops.lt b lo = false ∧ Before ops cls lo b) := by
  have h1 := separated L hs hc hf
  have h2 := ordered L hs hc hf
  refine (h1.and h2).imp ?_
  intro g1 g2 h lo hlo b hb
  obtain ⟨l, hl, hhead⟩ := mem_heads.1 (L.minKey_some hlo).1
  have hmem : lo ∈ g1.flatten := List.mem_flatten.2 ⟨l, hl, List.mem_of_mem_head? hhead⟩
  exact ⟨(h.2 lo hmem b hb).2, h.1 lo hmem b hb⟩

/-! ### 5. completeness: overlapping items share a group -/

/-- Occurrence-precise form: members of two different groups (different positions in the emitted
    list) never overlap.  With `partition` (each occurrence lies in exactly one group position)
    this says two overlapping occurrences are in the same group. -/
theorem complete_pos (L : ops.Lawful cls) {iters : List (List κ)}
    (hs : SortedInputs ops iters) (hc : ClosedInputs ops iters) {fuel : Nat}
    (hf : totalLen' iters + 1 ≤ fuel) :
    (ovAll ops fuel iters).Pairwise
      (fun g1 g2 => ∀ a ∈ g1.flatten, ∀ b ∈ g2.flatten,
        ¬ Overlap ops cls a b ∧ ¬ Overlap ops cls b a) :=
  (separated L hs hc hf).imp fun h a ha b hb =>
    ⟨(h a ha b hb).not_overlap, (h a ha b hb).not_overlap'⟩

/-- A member of two emitted groups forces them to be the same group: groups are disjoint. -/
theorem group_unique (L : ops.Lawful cls) {iters : List (List κ)}
    (hs : SortedInputs ops iters) (hc : ClosedInputs ops iters) {fuel : Nat}
    (hf : totalLen' iters + 1 ≤ fuel) {g1 g2 : List (List κ)}
    (hg1 : g1 ∈ ovAll ops fuel iters) (hg2 : g2 ∈ ovAll ops fuel iters) {x : κ}
    (h1 : x ∈ g1.flatten) (h2 : x ∈ g2.flatten) : g1 = g2 := by
  have hcx : ops.Closed x :=
    AllItems.flatten hc x ((mem_groups_iff L hs hc hf x).2 ⟨g1, hg1, h1⟩)
  rcases pairwise_mem_cases (separated L hs hc hf) hg1 hg2 with h | h | h
  · exact h
  · exact absurd (h x h1 x h2) (Before.irrefl_of_closed hcx)
  · exact absurd (h x h2 x h1) (Before.irrefl_of_closed hcx)

/-- Two items of the inputs that overlap are in the same group. -/
theorem complete (L : ops.Lawful cls) {iters : List (List κ)}
    (hs : SortedInputs ops iters) (hc : ClosedInputs ops iters) {fuel : Nat}
    (hf : totalLen' iters + 1 ≤ fuel) {a b : κ}
    (ha : a ∈ iters.flatten) (hb : b ∈ iters.flatten) (hab : Overlap ops cls a b) :
    ∃ g ∈ ovAll ops fuel iters, a ∈ g.flatten ∧ b ∈ g.flatten := by
  obtain ⟨g1, hg1, ha1⟩ := (mem_groups_iff L hs hc hf a).1 ha
  obtain ⟨g2, hg2, hb2⟩ := (mem_groups_iff L hs hc hf b).1 hb
  rcases pairwise_mem_cases (separated L hs hc hf) hg1 hg2 with h | h | h
  · subst h; exact ⟨g1, hg1, ha1, hb2⟩
  · exact absurd hab (h a ha1 b hb2).not_overlap
  · exact absurd hab (h b hb2 a ha1).not_overlap'

/-- 3 + 5: two input items share a group iff a chain of overlapping input items links them. -/
theorem same_group_iff (L : ops.Lawful cls) {iters : List (List κ)}
    (hs : SortedInputs ops iters) (hc : ClosedInputs ops iters) {fuel : Nat}
    (hf : totalLen' iters + 1 ≤ fuel) {a b : κ} :
    (∃ g ∈ ovAll ops fuel iters, a ∈ g.flatten ∧ b ∈ g.flatten) ↔
      Linked ops cls (· ∈ iters.flatten) a b := by
  constructor
  · rintro ⟨g, hg, ha, hb⟩
    refine (sound L hs hc hf g hg a ha b hb).mono ?_
    intro x hx
    exact (mem_groups_iff L hs hc hf x).2 ⟨g, hg, hx⟩
  · intro h
    induction h with
    | refl ha =>
      obtain ⟨g, hg, hag⟩ := (mem_groups_iff L hs hc hf _).1 ha
      exact ⟨g, hg, hag, hag⟩
    | @tail b c _ hc' ho ih =>
      obtain ⟨g, hg, hag, hbg⟩ := ih
      have hbmem : b ∈ iters.flatten := (mem_groups_iff L hs hc hf b).2 ⟨g, hg, hbg⟩
      obtain ⟨g', hg', hbg', hcg'⟩ := complete L hs hc hf hbmem hc' ho
      have : g = g' := group_unique L hs hc hf hg hg' hbg hbg'
      subst this
      exact ⟨g, hg, hag, hcg'⟩

/-! ### occurrences made explicit

`tagInputs iters` tags every item with its occurrence `(input index, position)`; the tagged items
are pairwise distinct, the tagged run (operations pulled back along `Prod.fst`) meets all
hypotheses, and forgetting the tags gives back the untagged run.  So every theorem above applies to
occurrences; `complete_occ` and `same_group_iff_occ` spell this out. -/

theorem tagged_run (L : ops.Lawful cls) {iters : List (List κ)}
    (hs : SortedInputs ops iters) (hc : ClosedInputs ops iters) {fuel : Nat}
    (hf : totalLen' iters + 1 ≤ fuel) :
    (tagInputs iters).flatten.Nodup ∧
    (ops.comap Prod.fst).Lawful (fun x : κ × Nat × Nat => cls x.1) ∧
    SortedInputs (ops.comap Prod.fst) (tagInputs iters) ∧
    ClosedInputs (ops.comap Prod.fst) (tagInputs iters) ∧
    totalLen' (tagInputs iters) + 1 ≤ fuel ∧
    (ovAll (ops.comap Prod.fst) fuel (tagInputs iters)).map (List.map (List.map Prod.fst)) =
      ovAll ops fuel iters := by
  refine ⟨tagInputs_nodup iters, L.comap Prod.fst, ?_, ?_, ?_, ?_⟩
  · exact SortedInputs.comap (by rw [tagInputs_map_fst]; exact hs)
  · exact ClosedInputs.comap (by rw [tagInputs_map_fst]; exact hc)
  · have := totalLen_map (Prod.fst : κ × Nat × Nat → κ) (tagInputs iters)
    rw [tagInputs_map_fst] at this
    omega
  · rw [← ovAll_map, tagInputs_map_fst]

/-- Two occurrences `(i,p)`, `(j,q)` whose items overlap lie in the same group of the tagged run
    (whose projection is the untagged run, by `tagged_run`). -/
theorem complete_occ (L : ops.Lawful cls) {iters : List (List κ)}
    (hs : SortedInputs ops iters) (hc : ClosedInputs ops iters) {fuel : Nat}
    (hf : totalLen' iters + 1 ≤ fuel) {i p j q : Nat}
    (hi : i < iters.length) (hp : p < iters[i].length)
    (hj : j < iters.length) (hq : q < iters[j].length)
    (hov : Overlap ops cls iters[i][p] iters[j][q]) :
    ∃ g ∈ ovAll (ops.comap Prod.fst) fuel (tagInputs iters),
      (iters[i][p], i, p) ∈ g.flatten ∧ (iters[j][q], j, q) ∈ g.flatten := by
  obtain ⟨_, L', hs', hc', hf', _⟩ := tagged_run L hs hc hf
  exact complete L' hs' hc' hf' (mem_tagInputs.2 ⟨hi, hp, rfl⟩) (mem_tagInputs.2 ⟨hj, hq, rfl⟩) hov

/-- Two occurrences share a group iff a chain of overlapping occurrences links them. -/
theorem same_group_iff_occ (L : ops.Lawful cls) {iters : List (List κ)}
    (hs : SortedInputs ops iters) (hc : ClosedInputs ops iters) {fuel : Nat}
    (hf : totalLen' iters + 1 ≤ fuel) {x y : κ × Nat × Nat} :
    (∃ g ∈ ovAll (ops.comap Prod.fst) fuel (tagInputs iters), x ∈ g.flatten ∧ y ∈ g.flatten) ↔
      Linked (ops.comap Prod.fst) (fun z : κ × Nat × Nat => cls z.1)
        (· ∈ (tagInputs iters).flatten) x y := by
  obtain ⟨_, L', hs', hc', hf', _⟩ := tagged_run L hs hc hf
  exact same_group_iff L' hs' hc' hf'

/-! ### non-vacuity -/

/-- keys `(class, start, stop)` ordered lexicographically -/
def exOps : OvOps (Nat × Int × Int) where
  lt a b := decide (a.1 < b.1) || (decide (a.1 = b.1) &&
    (decide (a.2.1 < b.2.1) || (decide (a.2.1 = b.2.1) && decide (a.2.2 < b.2.2))))
  same a b := decide (a.1 = b.1)
  start k := k.2.1
  stop k := k.2.2

theorem exOps_lawful : exOps.Lawful (fun k : Nat × Int × Int => k.1) where
  same_iff := by intro a b; simp [exOps]
  lt_iff := by intro a b; simp [exOps]

def exIters : List (List (Nat × Int × Int)) :=
  [[(0, 1, 10), (0, 15, 15), (0, 30, 40)], [(0, 5, 25), (0, 50, 60)]]

theorem exIters_sorted : SortedInputs exOps exIters := by
  unfold SortedInputs exIters; decide

theorem exIters_closed : ClosedInputs exOps exIters := by
  unfold ClosedInputs AllItems exIters OvOps.Closed; decide

/-- the concrete run: three groups, the first one chained through `(0,5,25)` -/
example : ovAll exOps (totalLen' exIters + 1) exIters =
    [[[(0, 1, 10), (0, 15, 15)], [(0, 5, 25)]],
     [[(0, 30, 40)], []],
     [[], [(0, 50, 60)]]] := by decide

/-- all hypotheses of the theorems above are met by the concrete configuration -/
example : exOps.Lawful (fun k : Nat × Int × Int => k.1) ∧ SortedInputs exOps exIters ∧
    ClosedInputs exOps exIters ∧ totalLen' exIters + 1 ≤ 6 :=
  ⟨exOps_lawful, exIters_sorted, exIters_closed, by decide⟩

/-- instance of `sound`/`complete`: `(0,1,10)` and `(0,15,15)` do not overlap directly but share
    the first group, being linked through `(0,5,25)` -/
example : ∃ g ∈ ovAll exOps 6 exIters, (0, 1, 10) ∈ g.flatten ∧ (0, 15, 15) ∈ g.flatten :=
  (same_group_iff exOps_lawful exIters_sorted exIters_closed (by decide)).2
    (.tail (b := (0, 5, 25))
      (.tail (b := (0, 1, 10)) (.refl (by decide)) (by decide) (by unfold Overlap exOps; decide))
      (by decide) (by unfold Overlap exOps; decide))

example : ∀ i (hi : i < exIters.length),
    ((ovAll exOps 6 exIters).map (fun g => g.getD i [])).flatten = exIters[i] :=
  partition exOps_lawful exIters_sorted exIters_closed (by decide)

example : ∀ g ∈ ovAll exOps 6 exIters, ∃ s ∈ g, s ≠ [] :=
  nonempty exOps_lawful exIters_sorted exIters_closed (by decide)

example : ∀ g ∈ ovAll exOps 6 exIters, ∀ a ∈ g.flatten, ∀ b ∈ g.flatten,
    Linked exOps (fun k => k.1) (· ∈ g.flatten) a b :=
  sound exOps_lawful exIters_sorted exIters_closed (by decide)

example : (ovAll exOps 6 exIters).Pairwise
    (fun g1 g2 => ∀ a ∈ g1.flatten, ∀ b ∈ g2.flatten, Before exOps (fun k => k.1) a b) :=
  separated exOps_lawful exIters_sorted exIters_closed (by decide)

/-- occurrences `(0,0)` = `(0,1,10)` and `(1,0)` = `(0,5,25)` overlap, hence share a group -/
example : ∃ g ∈ ovAll (exOps.comap Prod.fst) 6 (tagInputs exIters),
    ((0, 1, 10), 0, 0) ∈ g.flatten ∧ ((0, 5, 25), 1, 0) ∈ g.flatten :=
  complete_occ (i := 0) (p := 0) (j := 1) (q := 0) exOps_lawful exIters_sorted exIters_closed
    (by decide) (by decide) (by decide) (by decide) (by decide)
    (by unfold Overlap exOps exIters; decide)

end C11
