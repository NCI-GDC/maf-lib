/-
  C02 — files written by the library read back identically (end-to-end composition).

  Operational model: `Model.Writer.init` / `Model.Writer.write` (`MafWriter(...)`, `writer += record`);
  the file is the concatenation of the texts passed to `handle.write` (`Writer.bytes`), cut into
  lines after every LF (`RoundTrip.fileLines`, Python's iteration over a text handle without newline
  translation); `Model.Reader.init` / `Model.Reader.readAll` (`MafReader(lines)`, `list(reader)`).
  `round_trip_typed`, `rewrite_identical` and `round_trip_schemeless` are instances of `round_trip`
  in `Lemmas/RoundTrip.lean` (any stringency, any scheme writer and reader agree on).

  What the theorems assume (definitions in `Lemmas/RoundTrip.lean`):
  * `Printable K h`          — `h` is a header the grammar can carry (records filed under their own
                               canonical key/value, distinct keys, the sort order carrying exactly the
                               contig list `from_lines` attaches, no LF in a printed line);
                               `printable_of_parsed`: every header `from_lines` builds from LF-free
                               lines is one;
  * `SchemeFit C K S`        — the scheme hypotheses of C01/C06 (`SchemeOKGen`) + column names
                               without TAB/CR/LF + the column-name line does not start with `#`;
  * `RecStable C S r`        — every value of `r` is the value its own text denotes under the
                               scheme's class ("canonical value"); `stable_of_parsed`: true of every
                               value that came out of parsing; NOT true of every API-built value, and
                               without it the property FAILS: `api_value_counterexample`;
  * `Record.Inv`             — the name map and the slot list of the record hold the same column
                               objects (true of every record built through the API from `{}`);
  * `InDeclaredOrder K h rs` — the reader's own order checker lets `rs` through;
  * `PlainRenders C`         — `str` of a plain `MafColumnRecord` holding a text is that text.

  Findings, at the end of the file: `api_value_counterexample` (a validated API-built value whose
  text denotes another value: `"007"` in a `StringOrIntegerColumn` comes back as `7` and is
  rewritten as `7`), `header_lf_counterexample` (a header value containing LF is accepted by the
  writer and comes back as two lines), `hash_column_counterexample` (a scheme-less first column
  named `#…` is read back as a header line).
-/
import MafModel.Lemmas.RoundTrip
import MafModel.Props.C06
import MafModel.Props.C04
open Model Py RoundTrip

namespace C02

/-- `writer += r₁; writer += r₂; …`, stopping at the first exception -/
abbrev writeAll := RoundTrip.writeAll

theorem processErrors_nil (m : Mode) : processErrors m [] = .ok [] := by cases m <;> rfl

theorem processErrors_silent (es : List VErr) : processErrors .silent es = .ok [] := by
  cases es <;> rfl

theorem writer_init_typed {K : HConsts} {R : Registry} {h : Header} {S : Scheme}
    (he : hdrErrs K R h = []) (hs : (h.scheme K R).filter Scheme.truthy = some S) :
    Writer.init K R h (some .strict) true =
      .ok { out := headerOut K h ++ [columnLine S], header := { h with errors := [] }, scheme := some S,
            mode := .strict, assumeSorted := true, sorting := false } := by
  rw [writer_init_eq, he, hs]
  rfl

/-! ## 1. recognised scheme, Strict -/

/-- the hypotheses `round_trip_typed` and `rewrite_identical` make on the writer, unpacked -/
theorem typed_writer {C : Ctx} {K : HConsts} {R : Registry} {h : Header} {S : Scheme}
    {rs : List Record} {w0 w : Writer} (hS : S.truthy = true)
    (hinit : Writer.init K R h (some .strict) true = .ok w0) (hsch : w0.scheme = some S)
    (hwrite : writeAll C K w0 rs = (w, .ok ())) :
    hdrErrs K R h = [] ∧ h.scheme K R = some S ∧
    w0 = { out := headerOut K h ++ [columnLine S], header := { h with errors := [] }, scheme := some S,
           mode := .strict, assumeSorted := true, sorting := false } ∧
    ∀ r ∈ rs, Valid C S r := by
  rw [writer_init_eq] at hinit
  cases hpe : processErrors .strict (hdrErrs K R h) with
  | error e => rw [hpe] at hinit; cases hinit
  | ok lg =>
    obtain ⟨herrs, -⟩ := Model.processErrors_strict_ok hpe
    cases hf : (h.scheme K R).filter Scheme.truthy with
    | none => rw [hpe, hf] at hinit; cases hinit; cases hsch
    | some s =>
      rw [hpe, hf] at hinit
      cases hinit
      cases hsch
      obtain ⟨_, -, hv, -⟩ := (writeAll_direct hS rfl rfl).1 hwrite
      exact ⟨herrs, (Option.filter_eq_some_iff.1 hf).1, by rw [herrs], fun r hr =>
        (hv r hr).elim fun _ => valid_of_strict_ok hS⟩

/-- **C02.1 — the round trip, recognised scheme, Strict mode, direct writer.**
    A Strict writer is constructed on a header `h` the grammar can carry, whose version/annotation
    name the scheme `S` (a scheme as in `SchemeFit`); every record of `rs` is accepted
    (`writer += r` does not raise); the values are canonical (`RecStable`), the records coherent
    (`Record.Inv`) and supplied in the declared order.  Then, with `lines` the lines of the bytes on
    the handle:
    * `MafReader(lines, Strict)` is constructed, without any error; it carries the same header
      records in the same order (keys, values, contig lists) and the scheme `S`, and the column names
      it read are the names of `S`;
    * `list(reader)` raises nothing, collects no error and reads to the end of the input;
    * it returns as many records as were written, in the same order; each prints as the written
      record does (equal text), has no error, and holds in every slot a column of the same name with
      the same — equal, `=` — typed value. -/
theorem round_trip_typed (C : Ctx) (K : HConsts) (R : Registry) (h : Header) (S : Scheme)
    (rs : List Record) (w0 w : Writer) (hP : PlainRenders C) (hfit : SchemeFit C K S)
    (hh : Printable K h)
    (hinit : Writer.init K R h (some .strict) true = .ok w0) (hsch : w0.scheme = some S)
    (hwrite : writeAll C K w0 rs = (w, .ok ()))
    (hstable : ∀ r ∈ rs, RecStable C S r) (hcoh : ∀ r ∈ rs, r.Inv)
    (horder : InDeclaredOrder K w0.header rs) :
    ∃ (rd : Reader) (rs' : List Record) (rd' : Reader),
      Reader.init C K R (fileLines w.bytes) (some .strict) none = .ok rd ∧
      rd.header.recs = w0.header.recs ∧ rd.header.errors = [] ∧ rd.errors = [] ∧
      rd.scheme = some S ∧ colNamesOf K (fileLines w.bytes) = some (S.names.map String.toList) ∧
      rd.readAll C K = (rs', none, rd') ∧ rd'.errors = [] ∧ rd'.next = none ∧
      rs'.length = rs.length ∧
      List.Forall₂ (fun r' r => r'.render C = r.render C ∧ (∃ t, r.render C = .ok t) ∧
        cells r' = cells r ∧ r'.errors = [] ∧ r'.Inv) rs' rs := by
  obtain ⟨herrs, hscheme, rfl, hvalid⟩ := typed_writer hfit.ok.truthy hinit hsch hwrite
  obtain ⟨rd, rs', rd', _, -, hi, hhdr, hs, he, hcn, hread, he', hn', hre, -⟩ :=
    round_trip (R := R) (m := .strict) hP hfit hh rfl rfl rfl hwrite hvalid hstable hcoh horder
      (.inl hscheme) (lg0 := []) (by rw [herrs]; rfl)
  rw [herrs] at hhdr he he'
  exact ⟨rd, rs', rd', hi, by rw [hhdr], by rw [hhdr], he, hs, hcn, hread, he', hn',
    forall₂_length hre, hre⟩

/-! ## 2. writing the re-read content again -/

/-- **C02.2 — the second file is byte-identical.**  Under the hypotheses of `round_trip_typed`:
    a Strict writer constructed on the header the reader parsed accepts every re-read record, and
    the bytes on its handle are the bytes of the first file. -/
theorem rewrite_identical (C : Ctx) (K : HConsts) (R : Registry) (h : Header) (S : Scheme)
    (rs : List Record) (w0 w : Writer) (hP : PlainRenders C) (hfit : SchemeFit C K S)
    (hh : Printable K h)
    (hinit : Writer.init K R h (some .strict) true = .ok w0) (hsch : w0.scheme = some S)
    (hwrite : writeAll C K w0 rs = (w, .ok ()))
    (hstable : ∀ r ∈ rs, RecStable C S r) (hcoh : ∀ r ∈ rs, r.Inv)
    (horder : InDeclaredOrder K w0.header rs) :
    ∃ (rd : Reader) (rs' : List Record) (rd' : Reader) (v0 v : Writer),
      Reader.init C K R (fileLines w.bytes) (some .strict) none = .ok rd ∧
      rd.readAll C K = (rs', none, rd') ∧
      Writer.init K R rd.header (some .strict) true = .ok v0 ∧
      writeAll C K v0 rs' = (v, .ok ()) ∧
      v.bytes = w.bytes := by
  obtain ⟨herrs, hscheme, rfl, hvalid⟩ := typed_writer hfit.ok.truthy hinit hsch hwrite
  obtain ⟨rd, rs', rd', ts, hout, hi, hhdr, -, -, -, hread, -, -, -, hagain⟩ :=
    round_trip (R := R) (m := .strict) hP hfit hh rfl rfl rfl hwrite hvalid hstable hcoh horder
      (.inl hscheme) (lg0 := []) (by rw [herrs]; rfl)
  -- the header read back has the records of `h`, on which everything the writer looks at depends
  have hv0 := writer_init_typed (K := K) (R := R) (h := rd.header) (S := S) (by rw [hhdr]; exact herrs)
    (by rw [hhdr]; exact hscheme ▸ Scheme.truthy_filter hfit.ok.truthy)
  refine ⟨rd, rs', rd', _, _, hi, hread, hv0, hagain _ rfl rfl, ?_⟩
  rw [Writer.bytes, Writer.bytes, hout, hhdr]
  rfl

/-! ## 3. no scheme from the header, Silent -/

/-- the column names a scheme-less writer infers from the first record: `str(key)` of every slot -/
def keyNames (r : Record) : List String :=
  r.keys.map (fun k => match k with | some t => String.ofList t | none => "None")

/-- the first `+=` of a writer without scheme: the column names are inferred, written, and the
    record is then handled as by a writer with the scheme `NoRestrictionsScheme(names)` -/
theorem writeAll_first {C : Ctx} {K : HConsts} {w : Writer} {r : Record} {rest : List Record}
    (hn : w.scheme = none) (ha : w.assumeSorted = true)
    (hS : (noRestrictionsScheme (keyNames r)).truthy = true) :
    writeAll C K w (r :: rest) =
      writeAll C K { w with scheme := some (noRestrictionsScheme (keyNames r)),
                            out := w.out ++ [columnLine (noRestrictionsScheme (keyNames r))],
                            sorting := false } (r :: rest) := by
  have h1 : w.write C K r =
      ({ w with scheme := some (noRestrictionsScheme (keyNames r)),
                out := w.out ++ [columnLine (noRestrictionsScheme (keyNames r))],
                sorting := false } : Writer).write C K r := by
    obtain ⟨out, hd, sch, mo, as, so, qu⟩ := w
    simp only at hn ha
    subst hn ha
    unfold Writer.write
    simp only [Writer.setSorter, if_true, Option.filter, keyNames]
    simp only [keyNames] at hS
    simp only [hS, if_true]
    rfl
  simp only [writeAll, RoundTrip.writeAll, h1]

theorem names_of_valid {C : Ctx} {r : Record} (hS : (noRestrictionsScheme (keyNames r)).truthy = true)
    (hv : Valid C (noRestrictionsScheme (keyNames r)) r) :
    (noRestrictionsScheme (keyNames r)).names = keyNames r := by
  generalize noRestrictionsScheme (keyNames r) = S at *
  rw [keyNames, Record.keys_of_validated hS hv, List.map_map]
  exact ((List.map_congr_left fun n _ => String.ofList_toList).trans (List.map_id _)).symm

/-- **C02.3 — the round trip without a recognised scheme, Silent mode.**  The header names no
    scheme (no version/annotation, or unknown ones); the writer infers the columns from the first
    record `r0`: `S = NoRestrictionsScheme(keys of r0)`.  Every record is valid against `S` (Silent
    mode reports nothing, so this is a hypothesis: as many slots as names, the names in order,
    texts free of TAB/CR/LF), carries canonical values — here: every value is the text it prints —
    and is coherent; the records come in the declared order.  Then the file is read back in Silent
    mode: same header records, the whole-header errors of the writer's header and no other error,
    the scheme `S` inferred from the column-name line, and the same records in the same order with
    equal text and equal (name, value) cells. -/
theorem round_trip_schemeless (C : Ctx) (K : HConsts) (R : Registry) (h : Header) (r0 : Record)
    (rest : List Record) (w0 w : Writer) (hP : PlainRenders C)
    (hfit : SchemeFit C K (noRestrictionsScheme (keyNames r0))) (hh : Printable K h)
    (hnos : h.scheme K R = none)
    (hinit : Writer.init K R h (some .silent) true = .ok w0)
    (hwrite : writeAll C K w0 (r0 :: rest) = (w, .ok ()))
    (hvalid : ∀ r ∈ r0 :: rest, Valid C (noRestrictionsScheme (keyNames r0)) r)
    (hstable : ∀ r ∈ r0 :: rest, RecStable C (noRestrictionsScheme (keyNames r0)) r)
    (hcoh : ∀ r ∈ r0 :: rest, r.Inv)
    (horder : InDeclaredOrder K w0.header (r0 :: rest)) :
    ∃ (rd : Reader) (rs' : List Record) (rd' : Reader),
      Reader.init C K R (fileLines w.bytes) (some .silent) none = .ok rd ∧
      rd.header.recs = w0.header.recs ∧ rd.header.errors = w0.header.errors ∧
      rd.errors = w0.header.errors ∧
      rd.scheme = some (noRestrictionsScheme (keyNames r0)) ∧
      colNamesOf K (fileLines w.bytes) = some ((keyNames r0).map String.toList) ∧
      rd.readAll C K = (rs', none, rd') ∧ rd'.errors = rd.errors ∧ rd'.next = none ∧
      rs'.length = (r0 :: rest).length ∧
      List.Forall₂ (fun r' r => r'.render C = r.render C ∧ (∃ t, r.render C = .ok t) ∧
        cells r' = cells r ∧ r'.errors = [] ∧ r'.Inv) rs' (r0 :: rest) := by
  have hS := hfit.ok.truthy
  have hnames := names_of_valid hS (hvalid r0 List.mem_cons_self)
  rw [writer_init_eq, processErrors_silent, hnos] at hinit
  cases hinit
  -- after the first `+=` has written the column names, the writer is one with the scheme `S`
  rw [writeAll_first rfl rfl hS] at hwrite
  obtain ⟨rd, rs', rd', _, -, hi, hhdr, hs, he, hcn, hread, he', hn', hre, -⟩ :=
    round_trip (R := R) (m := .silent) hP hfit hh rfl rfl rfl hwrite hvalid hstable hcoh horder
      (.inr ⟨hnos, by rw [hnames]⟩) (processErrors_silent _)
  exact ⟨rd, rs', rd', hi, by rw [hhdr], by rw [hhdr], he, hs, hnames ▸ hcn, hread, he'.trans he.symm, hn',
    forall₂_length hre, hre⟩

/-- **C02.3, no record written.**  A scheme-less Silent writer that is never given a record has
    written the header lines only — no column-name line.  Reading that file in Silent mode: the
    reader is constructed with the same header records, no scheme, and one more error than the
    whole-header errors, `HEADER_MISSING_COLUMN_NAMES` at the line after the header;
    `list(reader)` is empty.  (So for such a file the property is about the header only.) -/
theorem header_only_file (C : Ctx) (K : HConsts) (R : Registry) (h : Header) (w0 : Writer)
    (hh : Printable K h) (hnos : h.scheme K R = none)
    (hinit : Writer.init K R h (some .silent) true = .ok w0) :
    ∃ rd : Reader, Reader.init C K R (fileLines w0.bytes) (some .silent) none = .ok rd ∧
      rd.header.recs = w0.header.recs ∧ rd.header.errors = w0.header.errors ∧ rd.scheme = none ∧
      colNamesOf K (fileLines w0.bytes) = none ∧
      rd.errors = w0.header.errors ++
        [{ tpe := "HEADER_MISSING_COLUMN_NAMES", line := some ((h.renderLines K).length + 1),
           origin := some ((h.renderLines K).length + 1) }] ∧
      rd.readAll C K = ([], none, rd) := by
  rw [writer_init_eq, processErrors_silent, hnos] at hinit
  cases hinit
  have hok : ∀ l ∈ h.renderLines K, LineOK l := fun l hl => (renderLine_ok hh l hl).1
  have hlines : fileLines (headerOut K h).flatten = (h.renderLines K).map (· ++ ['\n']) := by
    rw [headerOut_flatten]
    exact fileLines_flatten _ (fun l hl => (hok l hl).1)
  have hb := headerBlock_map_lf (body := []) (by rwa [List.append_nil])
    (fun l hl => (renderLine_ok hh l hl).2) (fun _ hl => nomatch hl)
  rw [List.append_nil] at hb
  have hk : headerLen K ((h.renderLines K).map (· ++ ['\n'])) = (h.renderLines K).length :=
    congrArg List.length hb
  have hfl : Header.fromLines K R (h.renderLines K) (some .silent) =
      ({ recs := h.recs, errors := hdrErrs K R h, mode := .silent }, .ok []) := by
    rw [fromLines_rendered R hh .silent, processErrors_silent]
  obtain ⟨rd, hi, hn, hhdr, hs, he⟩ := init_of_no_columnLine (C := C) (hb.symm ▸ hfl)
    (by rw [hk, List.length_map]) (processErrors_silent _)
  rw [hk] at he
  refine ⟨rd, by rw [Writer.bytes, hlines]; exact hi, by rw [hhdr], by rw [hhdr], hs.trans hnos, ?_, he, ?_⟩
  · rw [Writer.bytes, hlines, colNamesOf, hk, stripped_map_lf hok, List.getElem?_eq_none (Nat.le_refl _)]
    rfl
  · exact iterate_done C K hn _ _ _

/-! ## 4. the side conditions hold of what the library parses -/

theorem mem_rstripChars (p : Char → Bool) (s : Text) (c : Char) (h : c ∈ rstripChars p s) : c ∈ s := by
  unfold rstripChars at h
  have := (List.dropWhile_sublist p (l := s.reverse)).subset (by simpa using h)
  simpa using this

theorem render_reset (K : HConsts) (r : HRec) : r.reset.render K = r.render K := by
  simp [HRec.render, HRec.reset]

/-- **every header `from_lines` parses from LF-free lines is `Printable`** (so the hypothesis on
    the header in the theorems above is exactly "a header the grammar can carry") -/
theorem printable_of_parsed {K : HConsts} (W : K.WF) (lines : List Text) (m : Mode)
    (hlf : ∀ l ∈ lines, '\n' ∉ l) : Printable K ((C13.parsed K lines m).applyContigs K) := by
  have hp := C13.parse_inv W lines m
  have hreset : ((C13.parsed K lines m).applyContigs K).recs.map (fun p => (p.1, p.2.reset)) =
      (C13.parsed K lines m).recs := by
    rw [applyContigs_reset hp.1, hp.2.map_reset]
  refine ⟨applyContigs_inv hp.1, ?_, ?_⟩
  · rw [hreset]
    exact applyContigs_recs_congr K rfl
  · have hrl : ((C13.parsed K lines m).applyContigs K).renderLines K = (C13.parsed K lines m).renderLines K := by
      unfold Header.renderLines
      rw [← hreset, List.map_map]
      apply List.map_congr_left
      intro p _
      simp [render_reset]
    rw [hrl]
    intro l hl
    obtain ⟨p, hpm, rfl⟩ := List.mem_map.1 hl
    rw [C13.parse_kept] at hpm
    obtain ⟨r, hr, rfl⟩ := List.mem_map.1 hpm
    obtain ⟨l0, hl0, hfl⟩ := mem_okRecs.1 (mem_keepFirst_mem hr)
    obtain ⟨v, rfl, hk, _, _, _⟩ := (fromLine_ok_iff K l0 0 r).1 hfl
    simp only
    rw [fromLine_render_line W hk hfl]
    have h0 := hlf _ hl0
    simp only [List.mem_cons, List.mem_append, not_or] at h0 ⊢
    exact ⟨h0.1, h0.2.1, h0.2.2.1, fun hm => h0.2.2.2 (mem_rstripChars _ _ _ hm)⟩

/-- … in particular the header of `MafHeader.from_lines(lines)`, whatever the stringency -/
theorem printable_fromLines {K : HConsts} (W : K.WF) (R : Registry) (lines : List Text)
    (mode : Option Mode) (hlf : ∀ l ∈ lines, '\n' ∉ l) :
    Printable K (Header.fromLines K R lines mode).1 := by
  apply (printable_of_parsed W lines (modeOrSilent mode) hlf).congr
  rw [C13.fromLines_eq, C13.validate_rules]

/-- **a value that came out of parsing is canonical**: the column `from_line` builds for an accepted
    field (class = the scheme's class, a column type of the development, the value not the one
    known exception of C04 — a one-element list whose element prints as the empty text) satisfies
    `ColStable`.  Hypotheses as in C04: a lawful float host, the enum vocabularies. -/
theorem stable_of_parsed {C : Ctx} (hH : Render.FloatHost.Lawful' C.H) (hE : Render.EnumsOK C.enums)
    {S : Scheme} {i : Nat} {n cls : String} {sp : ColSpec} {t0 : Text} {v : PyVal}
    (hp : S.cols[i]? = some (n, cls)) (hsp : resolveSpec C.tbl cls = some sp)
    (hne : cls ≠ "MafColumnRecord") (hty : ClassTyped C cls)
    (hclean : ∀ c ∈ t0, c ≠ '\t' ∧ c ≠ '\n' ∧ c ≠ '\r')
    (hacc : sp.accept C false t0 = some v) (hse : ¬ C04.SingleEmpty C.enums v)
    (key : Text) (idx : Option Int) :
    ColStable C S i { cls := cls, key := key, value := v, index := idx } := by
  intro n' cls' sp' t hp' hsp' hr
  rw [hp] at hp'
  cases hp'
  rw [hsp] at hsp'
  cases hsp'
  obtain ⟨ty, hty⟩ := hty
  rw [hsp] at hty
  simp only [Option.map_some] at hty
  obtain ⟨t', hr', _, ha', _⟩ := C04.fixpoint_partial C hH hE ty sp.erase hty.symm t0 v hclean
    (by rw [Builtin.accept_erase]; exact hacc) hse
  rw [ColSpec.render_erase] at hr'
  rw [Builtin.accept_erase] at ha'
  have : t = t' := by
    simp only [Column.render, hsp] at hr
    rw [hr'] at hr
    cases hr
    rfl
  subst this
  have hpl : plainOk cls = false := by simp [plainOk, hne]
  rw [hpl]
  exact ha'

/-- … and so is every text value in an unrestricted (`MafColumnRecord`) column -/
theorem stable_plain {C : Ctx} (hP : PlainRenders C) {S : Scheme} (hS : SchemeOKGen C S) {i : Nat} {n : String}
    (hp : S.cols[i]? = some (n, "MafColumnRecord")) (t0 key : Text) (idx : Option Int) :
    ColStable C S i { cls := "MafColumnRecord", key := key, value := .atom (.str t0), index := idx } := by
  intro n' cls' sp' t hp' hsp' hr
  rw [hp] at hp'
  cases hp'
  obtain ⟨sp, hsp, _, hcase⟩ := hS.cls_ok _ (List.mem_of_getElem? hp)
  simp only at hsp hcase
  rw [hsp'] at hsp
  cases hsp
  rcases hcase with ⟨hne, _⟩ | ⟨_, hb, _⟩
  · exact absurd rfl hne
  · have : t = t0 := by
      simp only [Column.render, hsp', hP sp' hsp' t0] at hr
      cases hr
      rfl
    subst this
    simp [ColSpec.accept, ColSpec.buildValue, hb, plainOk]

theorem inDeclaredOrder_of_unsortable {K : HConsts} {h : Header}
    (ho : (h.sortOrder K).1.sortable = false) (rs : List Record) : InDeclaredOrder K h rs := by
  unfold InDeclaredOrder
  generalize hc : ({ order := (h.sortOrder K).1, contigs := (h.sortOrder K).2 } : Checker) = chk
  have hco : chk.order.sortable = false := by rw [← hc]; exact ho
  clear hc
  induction rs generalizing chk with
  | nil => exact ⟨_, rfl⟩
  | cons r rs ih =>
    have : chk.addRecord r = .ok { chk with last := some r.toLoc } := by
      unfold Checker.addRecord Checker.add
      simp [hco]
    simp only [checkRecords, this]
    exact ih _ hco

/-- the order hypothesis in the vocabulary of C09 / C10: `checkAll` over what the order checker
    reads from each record -/
theorem inDeclaredOrder_of_checkAll {K : HConsts} {h : Header} {rs : List Record}
    (hco : ∀ r ∈ rs, r.toLoc.hasCoords = true)
    (hchk : (checkAll { order := (h.sortOrder K).1, contigs := (h.sortOrder K).2 }
      (rs.map Record.toLoc)).2 = none) : InDeclaredOrder K h rs := by
  unfold InDeclaredOrder
  generalize ({ order := (h.sortOrder K).1, contigs := (h.sortOrder K).2 } : Checker) = chk at hchk
  induction rs generalizing chk with
  | nil => exact ⟨_, rfl⟩
  | cons r rs ih =>
    have hadd : chk.addRecord r = chk.add r.toLoc := by
      unfold Checker.addRecord
      simp [hco r (by simp)]
    simp only [List.map_cons, checkAll] at hchk
    simp only [checkRecords, hadd]
    cases hc : chk.add r.toLoc with
    | error e => rw [hc] at hchk; cases hchk
    | ok c' =>
      rw [hc] at hchk
      exact ih (fun x hx => hco x (by simp [hx])) c' hchk

/-! ## 5. decidable checks for concrete instances -/

theorem exists_ok_of_map {ε α β : Type} {x : Except ε α} {f : α → β} {b : β}
    (h : x.toOption.map f = some b) : ∃ a, x = .ok a ∧ f a = b := by
  cases x with
  | error e => cases h
  | ok a => exact ⟨a, rfl, by simpa [Except.toOption] using h⟩

def stableCheck (C : Ctx) (S : Scheme) (r : Record) : Bool :=
  r.slots.zipIdx.all (fun p => match p.1 with
    | none => true
    | some c => match S.cols[p.2]? with
      | none => true
      | some q => match resolveSpec C.tbl q.2, c.col.render C with
        | some sp, .ok t => decide (sp.accept C (plainOk q.2) t = some c.col.value)
        | _, _ => true)

theorem recStable_of_check {C : Ctx} {S : Scheme} {rs : List Record}
    (h : rs.all (stableCheck C S) = true) : ∀ r ∈ rs, RecStable C S r := by
  intro r hr i c hc n cls sp t hp hsp hr'
  have h := List.all_eq_true.1 h r hr
  simp only [stableCheck, List.all_eq_true] at h
  have := h (some c, i) (List.mem_zipIdx_iff_getElem?.2 hc)
  simpa [hp, hsp, hr'] using this

def invCheck (r : Record) : Bool :=
  decide (r.dict.map (·.1)).Nodup &&
  r.dict.all (fun p => decide (p.2.col.key = p.1) && match p.2.col.index with
    | some (Int.ofNat i) => decide (r.slots[i]? = some (some p.2))
    | _ => false) &&
  r.slots.zipIdx.all (fun p => match p.1 with
    | some c => decide (c.col.index = some (p.2 : Int)) && decide (tdictGet r.dict c.col.key = some c)
    | none => true) &&
  decide (r.slots.getLast? ≠ some none)

theorem inv_of_check {rs : List Record} (h : rs.all invCheck = true) : ∀ r ∈ rs, r.Inv := by
  intro r hr
  have h := List.all_eq_true.1 h r hr
  simp only [invCheck, Bool.and_eq_true, decide_eq_true_eq, List.all_eq_true] at h
  obtain ⟨⟨⟨h1, h2⟩, h3⟩, h4⟩ := h
  refine ⟨h1, ?_, ?_, h4⟩
  · intro p hp
    obtain ⟨hk, hi⟩ := h2 p hp
    refine ⟨hk, ?_⟩
    cases hidx : p.2.col.index with
    | none => rw [hidx] at hi; cases hi
    | some j =>
      rw [hidx] at hi
      cases j with
      | ofNat i => exact ⟨i, rfl, by simpa using hi⟩
      | negSucc i => cases hi
  · intro i c hc
    have := h3 (some c, i) (List.mem_zipIdx_iff_getElem?.2 hc)
    simpa using this

theorem inDeclaredOrder_of_isOk {K : HConsts} {h : Header} {rs : List Record}
    (hok : (checkRecords { order := (h.sortOrder K).1, contigs := (h.sortOrder K).2 } rs).toOption.isSome
      = true) : InDeclaredOrder K h rs := by
  unfold InDeclaredOrder
  cases hc : checkRecords { order := (h.sortOrder K).1, contigs := (h.sortOrder K).2 } rs with
  | error e => rw [hc] at hok; cases hok
  | ok c => exact ⟨c, rfl⟩

/-- A string literal is `String.ofList` of its characters by `rfl` (that is how the kernel reads
    a literal), so its character list is had without running the UTF-8 codec, whose evaluation in
    the kernel is quadratic in the length: used below where a whole file is spelt as one literal. -/
theorem toList_lit {s : String} {l : List Char} (h : s = String.ofList l) : s.toList = l :=
  h ▸ String.toList_ofList

/-! ## 6. non-vacuity: a typed file -/

section examples

private def t (s : String) : Text := s.toList

/-- generated class table and enums, a lawful float host; the three coordinate columns -/
def exC : Ctx := C06.sortC
def exS : Scheme := C06.sortS
def exR : Registry := { schemes := [exS], supportedVersions := ["v"], supportedAnnotations := ["a"] }

/-- the header `from_lines` parses from these five lines (real constants `K0`): version,
    annotation, a contig list, a coordinate sort order (which gets the contig list attached) and a
    free pragma with an inner blank -/
def exHeaderLines : List Text :=
  [t "#version v", t "#annotation.spec a", t "#contigs chr1,chr2", t "#sort.order Coordinate",
   t "#my.key two words"]
def exH : Header := (C13.parsed K0 exHeaderLines .strict).applyContigs K0

/-- two records, in coordinate order with respect to the contig list -/
def exRs : List Record := [C06.locRec "chr1" 7 9, C06.locRec "chr2" 5 6]

def exW0 : Writer :=
  { out := headerOut K0 exH ++ [columnLine exS], header := { exH with errors := [] }, scheme := some exS,
    mode := .strict, assumeSorted := true, sorting := false }
def exW : Writer := { exW0 with out := exW0.out ++ [t "chr1\t7\t9\n", t "chr2\t5\t6\n"] }

theorem ex_sortOrder : exH.sortOrder K0 = (.coordinate, [t "chr1", t "chr2"]) := by decide +kernel
theorem ex_printable : Printable K0 exH := printable_of_parsed K0_WF exHeaderLines .strict (by decide +kernel)
theorem ex_fit : SchemeFit exC K0 exS :=
  ⟨C06.schemeOKGen_of_check _ _ (by decide +kernel), by unfold NamesClean; decide +kernel, by decide +kernel⟩
theorem ex_plain : PlainRenders exC := plainRenders_of_check (by decide +kernel)
theorem ex_init : Writer.init K0 exR exH (some .strict) true = .ok exW0 :=
  writer_init_typed (by decide +kernel) (by decide +kernel)
theorem ex_write : writeAll exC K0 exW0 exRs = (exW, .ok ()) :=
  (writeAll_direct ex_fit.ok.truthy rfl rfl).2 ⟨[t "chr1\t7\t9", t "chr2\t5\t6"],
    .cons (by decide +kernel) (.cons (by decide +kernel) .nil),
    fun r hr => ⟨[], (by unfold Valid; decide +kernel : ∀ r ∈ exRs, Valid exC exS r) r hr⟩, rfl⟩
theorem ex_stable : ∀ r ∈ exRs, RecStable exC exS r := recStable_of_check (by decide +kernel)
theorem ex_inv : ∀ r ∈ exRs, r.Inv := inv_of_check (by decide +kernel)
theorem ex_order : InDeclaredOrder K0 exW0.header exRs := inDeclaredOrder_of_isOk (by decide +kernel)

example : exW.bytes = t ("#version v\n#annotation.spec a\n#contigs chr1,chr2\n#sort.order Coordinate\n" ++
    "#my.key two words\nChromosome\tStart_Position\tEnd_Position\nchr1\t7\t9\nchr2\t5\t6\n") := by
  rw [t, String.toList_append, toList_lit rfl, toList_lit rfl]
  decide +kernel

/-- every hypothesis of `round_trip_typed` and `rewrite_identical` is met -/
example := round_trip_typed exC K0 exR exH exS exRs exW0 exW ex_plain ex_fit ex_printable ex_init rfl
  ex_write ex_stable ex_inv ex_order
example := rewrite_identical exC K0 exR exH exS exRs exW0 exW ex_plain ex_fit ex_printable ex_init rfl
  ex_write ex_stable ex_inv ex_order

/-- the order hypothesis is not vacuous: the same records the other way round are out of order -/
example : ¬ InDeclaredOrder K0 exW0.header exRs.reverse := by
  rintro ⟨c, hc⟩
  have : (checkRecords { order := (exW0.header.sortOrder K0).1, contigs := (exW0.header.sortOrder K0).2 }
      exRs.reverse).toOption.isSome = false := by decide +kernel
  rw [hc] at this
  cases this

/-- `stable_of_parsed` applies to a concrete parsed field: `"007"` under `OneBasedIntegerColumn` -/
def exParsedCol : Column :=
  { cls := "OneBasedIntegerColumn", key := t "Start_Position", value := .atom (.int 7), index := some 1 }

example : ColStable exC exS 1 exParsedCol := by
  obtain ⟨sp, hsp⟩ : ∃ sp, resolveSpec exC.tbl "OneBasedIntegerColumn" = some sp :=
    Option.isSome_iff_exists.1 (by decide +kernel)
  have hacc : sp.accept exC false (t "007") = some (.atom (.int 7)) := by
    have : (resolveSpec exC.tbl "OneBasedIntegerColumn").map (fun sp => sp.accept exC false (t "007")) =
        some (some (.atom (.int 7))) := by decide +kernel
    rw [hsp] at this
    simpa using this
  -- `C` is given: left to unification it is found only after `exC.H`, `exC.enums` have been
  -- compared with the generated tables the slow way
  exact stable_of_parsed (C := exC) Render.intHost_lawful Render.enumsOK_generated (S := exS) (i := 1)
    (n := "Start_Position") rfl hsp (by decide) ⟨.named "OneBasedIntegerColumn", by decide +kernel⟩
    (by decide) hacc (by rintro ⟨a, h, _⟩; cases h) _ _

/-! ### a scheme-less file: empty leading / trailing fields, a value with an inner blank -/

def slR : Registry := { schemes := [], supportedVersions := [], supportedAnnotations := [] }
def slC0 (v : String) : RCol :=
  ⟨0, { cls := "MafColumnRecord", key := t "id", value := .atom (.str (t v)), index := some 0 }⟩
def slC1 (v : String) : RCol :=
  ⟨1, { cls := "MafColumnRecord", key := t "B", value := .atom (.str (t v)), index := some 1 }⟩
def slRec (a b : String) : Record :=
  { dict := [(t "id", slC0 a), (t "B", slC1 b)], slots := [some (slC0 a), some (slC1 b)] }
/-- a header without version and annotation: two whole-header errors, no scheme -/
def slH : Header := (C13.parsed K0 [t "#note no version here"] .silent).applyContigs K0
def slW0 : Writer :=
  { out := headerOut K0 slH, header := { slH with errors := hdrErrs K0 slR slH }, mode := .silent,
    assumeSorted := true }
def slW : Writer :=
  { slW0 with scheme := some (noRestrictionsScheme ["id", "B"]),
              out := slW0.out ++ [t "id\tB\n", t "x y\t\n", t "\tz\n"] }

theorem sl_init : Writer.init K0 slR slH (some .silent) true = .ok slW0 := by
  rw [writer_init_eq, processErrors_silent]
  rfl
theorem sl_write : writeAll exC K0 slW0 [slRec "x y" "", slRec "" "z"] = (slW, .ok ()) := by rfl
theorem sl_keys : keyNames (slRec "x y" "") = ["id", "B"] := by decide
theorem sl_fit : SchemeFit exC K0 (noRestrictionsScheme (keyNames (slRec "x y" ""))) := by
  rw [sl_keys]
  exact ⟨C06.schemeOKGen_of_check _ _ (by decide +kernel), by unfold NamesClean; decide +kernel, by decide +kernel⟩
theorem sl_valid : ∀ r ∈ [slRec "x y" "", slRec "" "z"],
    Valid exC (noRestrictionsScheme (keyNames (slRec "x y" ""))) r := by
  unfold Valid
  decide +kernel
theorem sl_stable : ∀ r ∈ [slRec "x y" "", slRec "" "z"],
    RecStable exC (noRestrictionsScheme (keyNames (slRec "x y" ""))) r :=
  recStable_of_check (by decide +kernel)
theorem sl_inv : ∀ r ∈ [slRec "x y" "", slRec "" "z"], r.Inv := inv_of_check (by decide +kernel)

example : slW.bytes = t "#note no version here\nid\tB\nx y\t\n\tz\n" := by
  rw [t, toList_lit rfl]
  decide +kernel

/-- every hypothesis of `round_trip_schemeless` and of `header_only_file` is met -/
example := round_trip_schemeless exC K0 slR slH (slRec "x y" "") [slRec "" "z"] slW0 slW ex_plain sl_fit
  (printable_of_parsed K0_WF _ .silent (by decide)) (by decide +kernel) sl_init sl_write sl_valid sl_stable
  sl_inv (inDeclaredOrder_of_unsortable (by decide +kernel) _)
example := header_only_file exC K0 slR slH slW0 (printable_of_parsed K0_WF _ .silent (by decide +kernel))
  (by decide +kernel) sl_init

end examples

/-! ## 7. findings (kernel-checked)

  Each of the three side conditions of the theorems that is not established by validation
  (`RecStable`, `Printable.noLF`, `SchemeFit.nohash`) is necessary: without it the property fails on
  the model — and on the library (`findings/C02-open-findings-demo.py` replays each case). -/

section findings

private def s (x : String) : Text := x.toList

/-! ### (a) a validated API-built value whose text denotes another value -/

/-- a one-column scheme: `Chromosome` is a `StringOrIntegerColumn`, as in the shipped `gdc-1.0.0` -/
def cexS : Scheme := { version := "v", annotation := "a", cols := [("Chromosome", "StringOrIntegerColumn")] }
def cexR : Registry := { schemes := [cexS], supportedVersions := ["v"], supportedAnnotations := ["a"] }
def cexH : Header := (C13.parsed K0 [s "#version v", s "#annotation.spec a"] .strict).applyContigs K0
/-- `StringOrIntegerColumn("Chromosome", "007")`: a `str` is a valid value of that column -/
def cexCol : RCol :=
  ⟨0, { cls := "StringOrIntegerColumn", key := s "Chromosome", value := .atom (.str (s "007")), index := some 0 }⟩
def cexRec : Record := { dict := [(s "Chromosome", cexCol)], slots := [some cexCol] }
def cexW0 : Writer :=
  { out := headerOut K0 cexH ++ [columnLine cexS], header := { cexH with errors := [] }, scheme := some cexS,
    mode := .strict, assumeSorted := true, sorting := false }
def cexW : Writer := { cexW0 with out := cexW0.out ++ [s "007\n"] }

theorem cex_fit : SchemeFit exC K0 cexS :=
  ⟨C06.schemeOKGen_of_check _ _ (by decide +kernel), by unfold NamesClean; decide, by decide⟩
theorem cex_init : Writer.init K0 cexR cexH (some .strict) true = .ok cexW0 :=
  writer_init_typed (by decide +kernel) (by decide +kernel)
theorem cex_write : writeAll exC K0 cexW0 [cexRec] = (cexW, .ok ()) :=
  (writeAll_direct cex_fit.ok.truthy rfl rfl).2 ⟨[s "007"], .cons (by decide +kernel) .nil,
    fun r hr => ⟨[], (by unfold Valid; decide +kernel : ∀ r ∈ [cexRec], Valid exC cexS r) r hr⟩, rfl⟩

/-- **Finding (kernel-checked).**  The Strict writer accepts the record and writes `007`; the
    Strict reader reads the file back without any error, but the value it builds is the integer
    `7`, which prints as `7`: the re-read record has neither the text nor the value of the written
    one (so writing it again gives a different file).  `RecStable` fails, the last conjunct; the
    other hypotheses of `round_trip_typed` hold of this instance, see `round_trip_any_values_false`. -/
theorem api_value_counterexample :
    writeAll exC K0 cexW0 [cexRec] = (cexW, .ok ()) ∧
    cexW.bytes = s "#version v\n#annotation.spec a\nChromosome\n007\n" ∧
    cexRec.render exC = .ok (s "007") ∧
    (Reader.init exC K0 cexR (fileLines cexW.bytes) (some .strict) none).toOption.map
        (fun rd => (rd.readAll exC K0).1.map (fun r => r.render exC)) = some [.ok (s "7")] ∧
    (Reader.init exC K0 cexR (fileLines cexW.bytes) (some .strict) none).toOption.map
        (fun rd => (rd.readAll exC K0).1.map cells) = some [[some (s "Chromosome", .atom (.int 7))]] ∧
    (Reader.init exC K0 cexR (fileLines cexW.bytes) (some .strict) none).toOption.map
        (fun rd => ((rd.readAll exC K0).2.1, rd.errors)) = some (none, []) ∧
    ¬ RecStable exC cexS cexRec := by
  refine ⟨cex_write, by rw [s, toList_lit rfl]; decide +kernel, by decide +kernel, by decide +kernel,
    by decide +kernel, by decide +kernel, ?_⟩
  intro h
  obtain ⟨sp, hsp⟩ : ∃ sp, resolveSpec exC.tbl "StringOrIntegerColumn" = some sp :=
    Option.isSome_iff_exists.1 (by decide +kernel)
  have h1 := h 0 cexCol rfl "Chromosome" "StringOrIntegerColumn" sp (s "007") rfl hsp (by decide +kernel)
  have h2 : (resolveSpec exC.tbl "StringOrIntegerColumn").map
      (fun sp => sp.accept exC (plainOk "StringOrIntegerColumn") (s "007")) = some (some (.atom (.int 7))) := by
    decide +kernel
  rw [hsp] at h2
  simp only [Option.map_some, Option.some.injEq] at h2
  rw [h2] at h1
  exact absurd h1 (by decide)

/-- `round_trip_typed` without the hypothesis on the values, and with "equal text" as its only
    conclusion about the records -/
def round_trip_any_values : Prop :=
  ∀ (C : Ctx) (K : HConsts) (R : Registry) (h : Header) (S : Scheme) (rs : List Record) (w0 w : Writer),
    PlainRenders C → SchemeFit C K S → Printable K h →
    Writer.init K R h (some .strict) true = .ok w0 → w0.scheme = some S →
    writeAll C K w0 rs = (w, .ok ()) → (∀ r ∈ rs, r.Inv) → InDeclaredOrder K w0.header rs →
    ∃ (rd : Reader) (rs' : List Record) (rd' : Reader),
      Reader.init C K R (fileLines w.bytes) (some .strict) none = .ok rd ∧
      rd.readAll C K = (rs', none, rd') ∧
      List.Forall₂ (fun r' r => r'.render C = r.render C) rs' rs

/-- … is false: the property C02 does not hold for every record a Strict writer accepts -/
theorem round_trip_any_values_false : ¬ round_trip_any_values := by
  intro H
  obtain ⟨rd, rs', rd', hi, hr, hf⟩ := H exC K0 cexR cexH cexS [cexRec] cexW0 cexW ex_plain cex_fit
    (printable_of_parsed K0_WF _ .strict (by decide +kernel)) cex_init rfl cex_write
    (inv_of_check (by decide +kernel))
    (inDeclaredOrder_of_isOk (by decide +kernel))
  have key := api_value_counterexample.2.2.2.1
  rw [hi] at key
  simp only [Except.toOption, Option.map_some, hr, Option.some.injEq] at key
  cases hf with
  | cons h1 h2 =>
    cases h2
    simp only [List.map_cons, List.map_nil, List.cons.injEq, and_true] at key
    rw [h1, api_value_counterexample.2.2.1] at key
    exact absurd key (by decide)

/-! ### (b) a header value containing a line feed -/

/-- a header built through the API: its records are filed under their own keys, canonical and
    distinct (`Header.Inv`), but one value contains LF -/
def lfH : Header :=
  { recs := [(s "version", ⟨s "version", .text (s "v")⟩),
             (s "annotation.spec", ⟨s "annotation.spec", .text (s "a")⟩),
             (s "note", ⟨s "note", .text (s "x\ny")⟩)] }
def lfW0 : Writer :=
  { out := headerOut K0 lfH ++ [columnLine cexS], header := { lfH with errors := [] }, scheme := some cexS,
    mode := .strict, assumeSorted := true, sorting := false }

/-- of the three components of `Printable`, the header satisfies the first two … -/
theorem lfH_inv : lfH.Inv K0 := by
  refine ⟨by decide +kernel, ?_, by decide +kernel⟩
  intro p hp
  simp only [lfH, List.mem_cons, List.mem_nil_iff, or_false] at hp
  rcases hp with rfl | rfl | rfl <;>
    exact ⟨by decide +kernel, by decide +kernel, ⟨by decide +kernel, by decide +kernel, by decide +kernel, by decide +kernel⟩⟩
theorem lfH_closed :
    (Header.applyContigs K0 { lfH with recs := lfH.recs.map (fun p => (p.1, p.2.reset)) }).recs = lfH.recs := by
  decide +kernel
/-- … but not the third -/
theorem lfH_not_printable : ¬ Printable K0 lfH := fun h => h.noLF (s "#note x\ny") (by decide +kernel) (by decide +kernel)

/-- **Finding (kernel-checked).**  The Strict writer accepts the header (`validate` checks version
    and annotation only) and prints the value over two lines; the reader takes the second half,
    `y`, for the column-name line: the Strict reader refuses the file, the Silent reader returns a
    header whose `note` is `x`.  (`Printable.noLF` is the hypothesis that excludes this.) -/
theorem header_lf_counterexample :
    Writer.init K0 cexR lfH (some .strict) true = .ok lfW0 ∧
    lfW0.bytes = s "#version v\n#annotation.spec a\n#note x\ny\nChromosome\n" ∧
    (match Reader.init exC K0 cexR (fileLines lfW0.bytes) (some .strict) none with
     | .ok _ => none | .error e => some e) = some (.format "SCHEME_MISMATCHING_COLUMN_NAMES" (some 4)) ∧
    (Reader.init exC K0 cexR (fileLines lfW0.bytes) (some .silent) none).toOption.map
        (fun rd => rd.header.recs.map (fun p => (p.1, p.2.value))) =
      some [(s "version", .text (s "v")), (s "annotation.spec", .text (s "a")), (s "note", .text (s "x"))] :=
  ⟨writer_init_typed (by decide +kernel) (by decide +kernel), by rw [s, toList_lit rfl]; decide +kernel,
    by decide +kernel, by decide +kernel⟩

/-! ### (c) a scheme-less first column whose name starts with the header start symbol -/

def hashR : Registry := { schemes := [], supportedVersions := [], supportedAnnotations := [] }
def hashC0 : RCol := ⟨0, { cls := "MafColumnRecord", key := s "#id", value := .atom (.str (s "a")), index := some 0 }⟩
def hashC1 : RCol := ⟨1, { cls := "MafColumnRecord", key := s "B", value := .atom (.str (s "b")), index := some 1 }⟩
def hashRec : Record := { dict := [(s "#id", hashC0), (s "B", hashC1)], slots := [some hashC0, some hashC1] }

/-- **Finding (kernel-checked).**  A scheme-less Silent writer writes the column names `#id`, `B`;
    the reader takes that line for a header line and the first record for the column names: of the
    two records written, one comes back.  (`SchemeFit.nohash` is the hypothesis that excludes
    this.) -/
theorem hash_column_counterexample :
    (Writer.init K0 hashR {} (some .silent) true).toOption.map (fun w0 =>
      ((writeAll exC K0 w0 [hashRec, hashRec]).1.bytes, (writeAll exC K0 w0 [hashRec, hashRec]).2)) =
      some (s "#id\tB\na\tb\na\tb\n", .ok ()) ∧
    (Reader.init exC K0 hashR (fileLines (s "#id\tB\na\tb\na\tb\n")) (some .silent) none).toOption.map
        (fun rd => (rd.readAll exC K0).1.map (fun r => r.render exC)) = some [.ok (s "a\tb")] ∧
    (Reader.init exC K0 hashR (fileLines (s "#id\tB\na\tb\na\tb\n")) (some .silent) none).toOption.map
        (fun rd => rd.scheme.map (·.names)) = some (some ["a", "b"]) :=
  ⟨by decide +kernel, by decide +kernel, by decide +kernel⟩

end findings

/-! ### the `…_partial` names

  What is proved of a statement that is false at full strength is called `…_partial` throughout the
  development.  C02 for *every* record a Strict writer accepts is `round_trip_any_values`, refuted
  by `round_trip_any_values_false`; the theorems above are C02 under the explicit hypothesis
  `RecStable` on the values (and `Printable`, `SchemeFit`, `Record.Inv`). -/

theorem round_trip_typed_partial : type_of% @round_trip_typed := @round_trip_typed
theorem rewrite_identical_partial : type_of% @rewrite_identical := @rewrite_identical
theorem round_trip_schemeless_partial : type_of% @round_trip_schemeless := @round_trip_schemeless

end C02
