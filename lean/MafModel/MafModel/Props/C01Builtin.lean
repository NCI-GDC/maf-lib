/-
  C01 at the level of whole lines, for every built-in layout: combines the
  record-level theorems (`C01Record`, generic in the scheme) with the field-level
  refinement and the tie to the generated tables (`C01`).
-/
import MafModel.Props.C01
import MafModel.Props.C01Record
import MafModel.Props.C01Tables
open Model Py Spec

namespace C01Builtin
open C01

theorem schemeOK_of_tbl (C C' : Ctx) (S : Scheme) (h : C.tbl = C'.tbl) (hs : SchemeOK C S) : SchemeOK C' S := by
  refine ⟨hs.nodup, hs.pos, ?_⟩
  intro p hp
  obtain ⟨sp, h1, h2, h3⟩ := hs.cls_ok p hp
  refine ⟨sp, by rw [← h]; exact h1, h2, ?_⟩
  simpa [isSubclass, ← h] using h3

/-- what `builtinsOK` says about one column of one built-in scheme -/
theorem builtin_column (st : BuildState) (ss : List (String × Scheme)) (hb : Builtin.built = .ok (st, ss))
    (a : String) (S : Scheme) (hS : (a, S) ∈ ss) :
    ∃ L, layoutOf Generated.schemeDefs S.annotation = some L ∧ L.length = S.cols.length ∧
      ∀ (i : Nat) (c : String × String) (l : String × ColType), S.cols[i]? = some c → L[i]? = some l →
        c.1 = l.1 ∧ (Builtin.expectedOf l.2).isSome ∧
        (resolveSpec st.tbl c.2).map ColSpec.erase = Builtin.expectedOf l.2 := by
  have hok := builtins_resolve
  unfold Builtin.builtinsOK at hok
  rw [hb] at hok
  simp only [Bool.and_eq_true, List.all_eq_true] at hok
  have hs := hok.2 (a, S) hS
  simp only [Builtin.schemeOK] at hs
  cases hL : layoutOf Generated.schemeDefs S.annotation with
  | none => simp [hL] at hs
  | some L =>
    simp only [hL, Bool.and_eq_true, beq_iff_eq, List.all_eq_true] at hs
    refine ⟨L, rfl, hs.1, ?_⟩
    intro i c l hc hl
    have hz : (c, l) ∈ S.cols.zip L := by
      have : (S.cols.zip L)[i]? = some (c, l) := by
        simp [List.getElem?_zip_eq_some, hc, hl]
      exact List.mem_of_getElem? this
    have := hs.2 (c, l) hz
    simp only [Builtin.colOK, Bool.and_eq_true, beq_iff_eq] at this
    exact ⟨this.1.1, this.1.2, this.2⟩

/-- **C01 for whole lines.**  Under every built-in scheme, a line with the scheme's
    number of fields is accepted without validation errors exactly when every
    field lies in the documented domain of the column at its position. -/
theorem builtin_line_accept_iff (C : Ctx) (st : BuildState) (ss : List (String × Scheme))
    (hb : Builtin.built = .ok (st, ss)) (hC : C.tbl = st.tbl)
    (a : String) (S : Scheme) (hS : (a, S) ∈ ss) (L : Layout)
    (hL : layoutOf Generated.schemeDefs S.annotation = some L)
    (line : Text) (lineNo : Option Nat) (mode : Option Mode) (r : Record) (logs : List LogRec)
    (hlen : (fieldsOf line).length = S.size)
    (hr : Record.fromLine C line none (some S) lineNo mode = .ok (r, logs)) :
    r.errors = [] ↔
      ∀ (i : Nat) (l : String × ColType) (f : Text), L[i]? = some l → (fieldsOf line)[i]? = some f →
        inDomain ⟨C.enums, C.H⟩ l.2 f = true := by
  obtain ⟨L', hL', hlen', hcol⟩ := builtin_column st ss hb a S hS
  rw [hL] at hL'; cases hL'
  have hok0 := C01Tables.builtin_schemes_ok
  rw [hb] at hok0
  simp only [List.all_eq_true] at hok0
  have hyp0 := C01Record.hyp_of_check _ S (hok0 (a, S) hS)
  have hyp : C01Record.Hyp C S := schemeOK_of_tbl _ C S (by simp [hC]) hyp0
  rw [C01Record.accept_iff hyp hlen hr]
  constructor
  · intro h i l f hl hf
    have hi : i < L.length := by
      rcases Nat.lt_or_ge i L.length with h' | h'
      · exact h'
      · rw [List.getElem?_eq_none h'] at hl; cases hl
    have hi' : i < S.cols.length := by omega
    obtain ⟨c, hc⟩ : ∃ c, S.cols[i]? = some c := ⟨S.cols[i], List.getElem?_eq_getElem hi'⟩
    obtain ⟨_, hsome, hres⟩ := hcol i c l hc hl
    cases hsp : resolveSpec st.tbl c.2 with
    | none => rw [hsp] at hres; simp at hres; rw [← hres] at hsome; simp at hsome
    | some sp =>
      have hacc := h i c.1 c.2 sp f (by simpa using hc) (by rw [hC]; exact hsp) hf
      have := accept_of_resolved C c.2 sp l.2 f (by rw [hC]; exact hres) (by rw [hC]; exact hsp)
      rw [this] at hacc
      exact hacc
  · intro h i n cls sp f hc hsp hf
    have hi : i < S.cols.length := by
      rcases Nat.lt_or_ge i S.cols.length with h' | h'
      · exact h'
      · rw [List.getElem?_eq_none h'] at hc; cases hc
    have hi' : i < L.length := by omega
    obtain ⟨l, hl⟩ : ∃ l, L[i]? = some l := ⟨L[i], List.getElem?_eq_getElem hi'⟩
    obtain ⟨_, _, hres⟩ := hcol i (n, cls) l hc hl
    have := accept_of_resolved C cls sp l.2 f (by rw [hC]; exact hres) hsp
    rw [this]
    exact h i l f hl hf

end C01Builtin
