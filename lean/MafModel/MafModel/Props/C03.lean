/-
  C03 — the validation stringency changes what is REPORTED, never what is PARSED.

  For each entry point — `Header.fromLines`, `Record.fromLine`, `Record.validate`, and whole-file
  reading (`Reader.init` + `Reader.readAll`) — the value and the collected error list are those of
  the Silent run; Silent logs nothing, Lenient logs one warning per collected error, Strict raises
  the first collected error (and returns exactly the Silent result when there is none).

  "Same value" is up to the stringency field the objects remember (`Header.mode`, `Record.mode`,
  `Reader.mode`): `x.withMode m` is `x` with that field set to `m`; `ModeRel m rS rM` says the
  reader `rM` is `rS` up to the stringency fields and the log.
-/
import MafModel.Lemmas.ReaderModes
import MafModel.Props.C17
open Py Model
namespace C03

/-- the warnings of a list of collected errors: one `⟨type, line⟩` record per error -/
def warnings (es : List VErr) : List LogRec := es.map (fun e => { tpe := e.tpe, line := e.line })

theorem errLogs_lenient_eq (es : List VErr) : errLogs .lenient es = warnings es := rfl

/-! ## 1. `Header.fromLines` -/
section header
variable (K : HConsts) (R : Registry) (ls : List Text)

/-- `from_lines` under any stringency, in terms of the Silent run: the same header (parsing is
    stringency-independent) and `processErrors` on its error list -/
theorem header_via_silent (m : Mode) :
    Header.fromLines K R ls (some m) =
      ((Header.fromLines K R ls (some .silent)).1.withMode m,
        processErrors m (Header.fromLines K R ls (some .silent)).1.errors) := by
  simp only [fromLines_spec]; rfl

/-- Silent and Lenient: the same header, the same collected errors, no exception -/
theorem header_silent_lenient_same :
    (Header.fromLines K R ls (some .lenient)).1 = (Header.fromLines K R ls (some .silent)).1.withMode .lenient ∧
    (Header.fromLines K R ls (some .lenient)).1.recs = (Header.fromLines K R ls (some .silent)).1.recs ∧
    (Header.fromLines K R ls (some .lenient)).1.errors = (Header.fromLines K R ls (some .silent)).1.errors ∧
    (∃ lg, (Header.fromLines K R ls (some .silent)).2 = .ok lg) ∧
    (∃ lg, (Header.fromLines K R ls (some .lenient)).2 = .ok lg) := by
  rw [header_via_silent K R ls .lenient]
  exact ⟨rfl, rfl, rfl, ⟨[], by rw [header_via_silent]; simp⟩, ⟨_, processErrors_lenient _⟩⟩

theorem header_silent_no_logs : (Header.fromLines K R ls (some .silent)).2 = .ok [] := by
  rw [header_via_silent]; simp

theorem header_lenient_logs_every_error :
    (Header.fromLines K R ls (some .lenient)).2 =
      .ok (warnings (Header.fromLines K R ls (some .silent)).1.errors) := by
  rw [header_via_silent K R ls .lenient]; exact processErrors_lenient _

/-- Strict raises the first collected error; with no error it returns what Silent returns -/
theorem header_strict_first_error :
    (∀ e es, (Header.fromLines K R ls (some .silent)).1.errors = e :: es →
      (Header.fromLines K R ls (some .strict)).2 = .error (.format e.tpe e.line)) ∧
    ((Header.fromLines K R ls (some .silent)).1.errors = [] →
      Header.fromLines K R ls (some .strict) =
        ((Header.fromLines K R ls (some .silent)).1.withMode .strict, .ok [])) := by
  rw [header_via_silent K R ls .strict]
  exact ⟨fun e es h => by rw [h]; rfl, fun h => by rw [h]; rfl⟩

end header

/-! ## 2. `Record.fromLine` -/
section record
variable (C : Ctx) (l : Text) (cn : Option (List Text)) (sch : Option Scheme) (n : Option Nat)

/-- `from_line` under any stringency, in terms of the Silent run: the same exception if parsing
    itself raised; otherwise `processErrors` on the collected errors and the same record -/
theorem record_via_silent (m : Mode) :
    Record.fromLine C l cn sch n (some m) =
      match Record.fromLine C l cn sch n (some .silent) with
      | .error e => .error e
      | .ok (rec, _) =>
        match processErrors m rec.errors with
        | .error e => .error e
        | .ok lg => .ok (rec.withMode m, lg) := by
  rw [fromLine_spec, fromLine_spec C l cn sch n (some .silent)]
  cases parsedLine C l cn sch n with
  | error e => rfl
  | ok prec => simp only [modeOrSilent, processErrors_silent]; rfl

/-- Silent and Lenient: the same record with the same collected errors — or the same (non-format)
    exception; neither raises a `MafFormatException` -/
theorem record_silent_lenient_same :
    (∀ rec lg, Record.fromLine C l cn sch n (some .silent) = .ok (rec, lg) →
      Record.fromLine C l cn sch n (some .lenient) = .ok (rec.withMode .lenient, warnings rec.errors)) ∧
    (∀ e, Record.fromLine C l cn sch n (some .silent) = .error e →
      Record.fromLine C l cn sch n (some .lenient) = .error e ∧ e.notFormat) := by
  constructor
  · intro rec lg h
    rw [record_via_silent, h]
    simp only [processErrors_lenient]; rfl
  · intro e h
    refine ⟨by rw [record_via_silent, h], ?_⟩
    rw [fromLine_spec] at h
    split at h
    · cases h; exact parsedLine_error_notFormat ‹_›
    · simp [modeOrSilent] at h

theorem record_silent_no_logs {rec : Record} {lg : List LogRec}
    (h : Record.fromLine C l cn sch n (some .silent) = .ok (rec, lg)) : lg = [] := by
  obtain ⟨prec, _, hpe, _⟩ := fromLine_ok h
  simpa [modeOrSilent] using hpe.symm

theorem record_lenient_logs_every_error {rec : Record} {lg : List LogRec}
    (h : Record.fromLine C l cn sch n (some .lenient) = .ok (rec, lg)) : lg = warnings rec.errors := by
  obtain ⟨prec, _, hpe, rfl⟩ := fromLine_ok h
  exact (processErrors_ok_iff.1 hpe).2

/-- Strict raises the first collected error of the Silent record (type and line number); with no
    collected error it returns exactly the Silent record -/
theorem record_strict_first_error {rec : Record} {lg : List LogRec}
    (h : Record.fromLine C l cn sch n (some .silent) = .ok (rec, lg)) :
    (∀ e es, rec.errors = e :: es →
      Record.fromLine C l cn sch n (some .strict) = .error (.format e.tpe e.line)) ∧
    (rec.errors = [] → Record.fromLine C l cn sch n (some .strict) = .ok (rec.withMode .strict, [])) := by
  constructor
  · intro e es he
    rw [record_via_silent, h]
    simp only [he, processErrors_strict_cons]
  · intro he
    rw [record_via_silent, h]
    simp only [he, processErrors_nil]

end record

/-! ## 3. `Record.validate` -/
section validate
variable (C : Ctx) (r : Record) (reset : Bool) (sch : Option Scheme)

/-- `validate` under any stringency, in terms of the Silent run: the same record (it does not
    depend on the stringency at all) and `processErrors` on its error list -/
theorem validate_via_silent (m : Mode) :
    r.validate C (some m) reset sch =
      ((r.validate C (some .silent) reset sch).1,
        processErrors m (r.validate C (some .silent) reset sch).1.errors) := rfl

/-- `validate` raises nothing in Silent mode (it has no assertion that could fail): the
    Silent run succeeds and logs nothing -/
theorem validate_silent_ok : (r.validate C (some .silent) reset sch).2 = .ok [] := by
  rw [validate_via_silent]; exact processErrors_silent _

/-- the only exception `validate` raises, under any stringency, is the `MafFormatException` of
    `processErrors` in Strict mode: the first collected error -/
theorem validate_error_only_strict_format {m : Mode} {e : PyErr}
    (h : (r.validate C (some m) reset sch).2 = .error e) :
    m = .strict ∧ ∃ x xs, (r.validate C (some .silent) reset sch).1.errors = x :: xs ∧
      e = .format x.tpe x.line :=
  processErrors_error h

theorem validate_silent_lenient_same :
    (r.validate C (some .lenient) reset sch).1 = (r.validate C (some .silent) reset sch).1 ∧
    (∀ lg, (r.validate C (some .silent) reset sch).2 = .ok lg → lg = [] ∧
      (r.validate C (some .lenient) reset sch).2 =
        .ok (warnings (r.validate C (some .silent) reset sch).1.errors)) ∧
    (∀ e, (r.validate C (some .silent) reset sch).2 = .error e →
      (r.validate C (some .lenient) reset sch).2 = .error e ∧ e.notFormat) := by
  refine ⟨rfl, fun lg h => ?_, fun e h => ?_⟩ <;> rw [validate_silent_ok] at h <;> cases h
  exact ⟨rfl, processErrors_lenient _⟩

theorem validate_strict_first_error {lg : List LogRec}
    (h : (r.validate C (some .silent) reset sch).2 = .ok lg) :
    (∀ e es, (r.validate C (some .silent) reset sch).1.errors = e :: es →
      (r.validate C (some .strict) reset sch).2 = .error (.format e.tpe e.line)) ∧
    ((r.validate C (some .silent) reset sch).1.errors = [] →
      r.validate C (some .strict) reset sch = ((r.validate C (some .silent) reset sch).1, .ok [])) := by
  rw [validate_via_silent C r reset sch .strict]
  exact ⟨fun e es h => by rw [h]; rfl, fun h => by rw [h]; rfl⟩

end validate

/-! ## 4. whole-file reading: `Reader.init` + `Reader.readAll` -/
section reader
variable (C : Ctx) (K : HConsts) (R : Registry) (lines : List Text) (given : Option Scheme)

/-- the Silent construction never fails; `silentReader` is what it gives -/
theorem reader_silent_init :
    Reader.init C K R lines (some .silent) given = .ok (silentReader K R lines given) :=
  init_silent C K R lines given

/-- **Silent and Lenient read the same file the same way**: both construct a reader, the readers
    agree up to the stringency fields and the log (`ModeRel`), they return the same records (up to
    the stringency field), stop with the same exception if any — never a `MafFormatException` —
    and end with the same collected error list. -/
theorem reader_silent_lenient_same :
    ∃ rL, Reader.init C K R lines (some .lenient) given = .ok rL ∧
      ModeRel .lenient (silentReader K R lines given) rL ∧
      (rL.readAll C K).1 = ((silentReader K R lines given).readAll C K).1.map (·.withMode .lenient) ∧
      (rL.readAll C K).2.1 = ((silentReader K R lines given).readAll C K).2.1 ∧
      ModeRel .lenient ((silentReader K R lines given).readAll C K).2.2 (rL.readAll C K).2.2 ∧
      (rL.readAll C K).2.2.errors = ((silentReader K R lines given).readAll C K).2.2.errors ∧
      (∀ e, ((silentReader K R lines given).readAll C K).2.1 = some e → e.notFormat) := by
  obtain ⟨rL, hinit, hrel, _⟩ := init_rel C K R lines given (m := .lenient) nofun
  obtain ⟨h1, h2, h3, _⟩ := readAll_rel (C := C) (K := K) hrel rfl rfl rfl nofun
  exact ⟨rL, hinit, hrel, h1, h2, h3, h3.errors,
    iterate_nonstrict_notFormat _ _ _ _ (init_at (reader_silent_init C K R lines given)).fuel
      (by show Mode.silent ≠ .strict; decide) _ rfl⟩

/-- the Silent run logs nothing, neither at construction nor while reading -/
theorem reader_silent_no_logs :
    (silentReader K R lines given).logs = [] ∧
    ((silentReader K R lines given).readAll C K).2.2.logs = [] := by
  obtain ⟨_, _, _, new, _, h⟩ := readAll_rel (C := C) (K := K)
    (ModeRel.withMode (silentReader K R lines given) .silent []) rfl rfl rfl nofun
  exact ⟨rfl, h⟩

/-- **the Lenient log**: the header's warnings (one per header error, emitted by
    `MafHeader.from_lines`), the `NO_MATCHING_SCHEME_WARNING` record when the reader falls back to
    `NoRestrictionsScheme`, then one warning per collected error of the whole file in file order —
    the header errors a second time (the reader re-processes its accumulated list at the end of
    `__init__`), the column-name errors, then each record's errors as the record is read. -/
theorem reader_lenient_logs_every_error :
    ∃ rL, Reader.init C K R lines (some .lenient) given = .ok rL ∧
      (rL.readAll C K).2.2.logs =
        warnings (parsedHeader K R (headerBlock K lines)).errors ++
        warnOf K R lines given .lenient ++
        warnings ((silentReader K R lines given).readAll C K).2.2.errors := by
  obtain ⟨rL, hinit, hrel, hlogs⟩ := init_rel C K R lines given (m := .lenient) nofun
  obtain ⟨_, _, _, new, h5, h6⟩ := readAll_rel (C := C) (K := K) hrel rfl rfl rfl nofun
  refine ⟨rL, hinit, ?_⟩
  rw [h6, hlogs, h5]
  simp [errLogs_lenient_eq, warnings, List.append_assoc]

/-- the `NO_MATCHING_SCHEME_WARNING` record is emitted (outside Silent mode) exactly when there is a
    column-name line and no usable scheme -/
theorem warnOf_eq (m : Mode) :
    warnOf K R lines given m =
      if (colNamesOf K lines).isSome ∧
          schemeless (initSch1 ((parsedHeader K R (headerBlock K lines)).scheme K R) given) ∧ m ≠ .silent
      then [{ tpe := "NO_MATCHING_SCHEME_WARNING", line := none }] else [] := by
  unfold warnOf initWarn
  cases colNamesOf K lines with
  | none => simp
  | some names =>
    by_cases h1 : schemeless (initSch1 ((parsedHeader K R (headerBlock K lines)).scheme K R) given)
    · by_cases h2 : m = .silent <;> simp [h1, h2]
    · simp [h1]

/-- **Strict reads the file as Silent does, up to the first collected error.**  Errors are
    append-only across the stages (header, column line, each record in turn), so "the first error
    of the Silent run" is the first error in file order:
    * if the Silent run ends with the collected list `e :: _`, the Strict run raises
      `MafFormatException(e.tpe, e.line)` — at construction if `e` is a header / column-name error,
      else while reading, having yielded a prefix of the Silent records;
    * if the Silent run collects nothing, the Strict run constructs, returns exactly the Silent
      records and ends the same way (same exception, if the order checker raised one). -/
theorem reader_strict_first_error :
    (∀ e es, ((silentReader K R lines given).readAll C K).2.2.errors = e :: es →
      Reader.init C K R lines (some .strict) given = .error (.format e.tpe e.line) ∨
      ∃ rT, Reader.init C K R lines (some .strict) given = .ok rT ∧
        (rT.readAll C K).2.1 = some (.format e.tpe e.line) ∧
        ∃ k, k ≤ ((silentReader K R lines given).readAll C K).1.length ∧
          (rT.readAll C K).1 =
            (((silentReader K R lines given).readAll C K).1.take k).map (·.withMode .strict)) ∧
    (((silentReader K R lines given).readAll C K).2.2.errors = [] →
      ∃ rT, Reader.init C K R lines (some .strict) given = .ok rT ∧
        (rT.readAll C K).1 = ((silentReader K R lines given).readAll C K).1.map (·.withMode .strict) ∧
        (rT.readAll C K).2.1 = ((silentReader K R lines given).readAll C K).2.1 ∧
        ModeRel .strict ((silentReader K R lines given).readAll C K).2.2 (rT.readAll C K).2.2) := by
  obtain ⟨more, new, _, hnew⟩ : ∃ more new,
      ((silentReader K R lines given).readAll C K).1 = [] ++ more ∧
      ((silentReader K R lines given).readAll C K).2.2.errors = (silentReader K R lines given).errors ++ new :=
    iterate_extends (C := C) (K := K) _ _ _ _
  constructor
  · intro e es he
    cases hE : (silentReader K R lines given).errors with
    | cons x xs =>
      rw [hnew, hE] at he
      cases he
      exact .inl (init_strict_error C K R lines given hE)
    | nil =>
      obtain ⟨rT, hinit, hrel, _⟩ := init_rel C K R lines given (m := .strict) fun _ => hE
      exact .inr ⟨rT, hinit, readAll_strict_raises hrel rfl hE rfl rfl he⟩
  · intro he
    have hE : (silentReader K R lines given).errors = [] := by
      rw [hnew] at he
      exact (List.append_eq_nil_iff.1 he).1
    obtain ⟨rT, hinit, hrel, _⟩ := init_rel C K R lines given (m := .strict) fun _ => hE
    obtain ⟨a, b, c, _⟩ := readAll_rel (C := C) (K := K) hrel rfl rfl rfl fun _ => he
    exact ⟨rT, hinit, a, b, c⟩

end reader

/-! ## non-vacuity: the example files of `Lemmas/ReaderExample.lean` -/
section examples
open Model.ReaderExample

private def exHeader : List Text := ["#version 2.4".toList, "#oops".toList]

/-- header: the Silent run collects three errors; Lenient logs three warnings; Strict raises the first -/
example : (Header.fromLines exK exR exHeader (some .silent)).1.errors.map (fun e => (e.tpe, e.line)) =
      [("HEADER_LINE_MISSING_SEPARATOR", some 2), ("HEADER_UNSUPPORTED_VERSION", none),
       ("HEADER_MISSING_ANNOTATION_SPEC", none)] ∧
    (Header.fromLines exK exR exHeader (some .lenient)).2 =
      .ok [⟨"HEADER_LINE_MISSING_SEPARATOR", some 2⟩, ⟨"HEADER_UNSUPPORTED_VERSION", none⟩,
           ⟨"HEADER_MISSING_ANNOTATION_SPEC", none⟩] ∧
    (Header.fromLines exK exR exHeader (some .strict)).2 =
      .error (.format "HEADER_LINE_MISSING_SEPARATOR" (some 2)) := by
  refine ⟨by decide +kernel, ?_, ?_⟩
  · rw [header_lenient_logs_every_error]; decide +kernel
  · exact (header_strict_first_error exK exR exHeader).1
      { tpe := "HEADER_LINE_MISSING_SEPARATOR", line := some 2, origin := some 2 }
      [{ tpe := "HEADER_UNSUPPORTED_VERSION", line := none }, { tpe := "HEADER_MISSING_ANNOTATION_SPEC", line := none }]
      (by decide +kernel)

private def exScheme : Scheme := noRestrictionsScheme ["Chromosome", "Start_Position", "End_Position"]

/-- record: the short line `chr2<TAB>5` read as line 5.  The Silent run returns a record with one
    collected error; so (by `record_strict_first_error`) Strict raises it, and (by
    `record_silent_lenient_same`) Lenient returns the same record and logs it. -/
example : ∃ rec lg,
    Record.fromLine exC "chr2\t5".toList none (some exScheme) (some 5) (some .silent) = .ok (rec, lg) ∧
    rec.errors = [{ tpe := "RECORD_MISMATCH_NUMBER_OF_COLUMNS", line := some 5, origin := some 5 }] ∧
    Record.fromLine exC "chr2\t5".toList none (some exScheme) (some 5) (some .strict) =
      .error (.format "RECORD_MISMATCH_NUMBER_OF_COLUMNS" (some 5)) ∧
    Record.fromLine exC "chr2\t5".toList none (some exScheme) (some 5) (some .lenient) =
      .ok (rec.withMode .lenient, [⟨"RECORD_MISMATCH_NUMBER_OF_COLUMNS", some 5⟩]) := by
  have hnd := noRestrictionsScheme_names_nodup ["Chromosome", "Start_Position", "End_Position"]
  have hp := parsedLine_eq exC "chr2\t5".toList none (some exScheme) (some 5)
  obtain ⟨prec, hprec, herr⟩ : ∃ prec, parsedLine exC "chr2\t5".toList none (some exScheme) (some 5) = .ok prec ∧
      prec.errors = [{ tpe := "RECORD_MISMATCH_NUMBER_OF_COLUMNS", line := some 5, origin := some 5 }] := by
    rw [hp]
    obtain ⟨r, hr, hf⟩ := exists_ok_of_map
      (x := preRecord exC "chr2\t5".toList none (some exScheme) (some 5))
      (f := fun r => r.validateErrors exC false none)
      (b := [{ tpe := "RECORD_MISMATCH_NUMBER_OF_COLUMNS", line := some 5, origin := some 5 }]) (by decide +kernel)
    rw [hr]
    exact ⟨_, rfl, hf⟩
  have hS : Record.fromLine exC "chr2\t5".toList none (some exScheme) (some 5) (some .silent)
      = .ok (prec.withMode .silent, []) := by
    rw [fromLine_spec, hprec]; simp [modeOrSilent]
  refine ⟨_, _, hS, herr, ?_, ?_⟩
  · exact (record_strict_first_error exC _ none (some exScheme) (some 5) hS).1 _ _ herr
  · have := (record_silent_lenient_same exC "chr2\t5".toList none (some exScheme) (some 5)).1 _ _ hS
    rw [this]
    simp [warnings, herr]

/-- whole file: the Silent run of the example file collects `HEADER_LINE_MISSING_SEPARATOR` first, so
    (by `reader_strict_first_error`) the Strict run fails with exactly that error — here already at
    construction; the Lenient run emits the `NO_MATCHING_SCHEME_WARNING` record -/
example : Reader.init exC exK exR exLines (some .strict) none =
      .error (.format "HEADER_LINE_MISSING_SEPARATOR" (some 2)) ∧
    warnOf exK exR exLines none .lenient = [⟨"NO_MATCHING_SCHEME_WARNING", none⟩] := by
  refine ⟨?_, by decide +kernel⟩
  obtain ⟨more, new, _, hnew⟩ := iterate_extends (C := exC) (K := exK)
    ((silentReader exK exR exLines none).src.length + 2) (silentReader exK exR exLines none)
    ((silentReader exK exR exLines none).checker exK) []
  have hE : (silentReader exK exR exLines none).errors =
      { tpe := "HEADER_LINE_MISSING_SEPARATOR", line := some 2, origin := some 2 } ::
      [{ tpe := "HEADER_UNSUPPORTED_VERSION", line := none }, { tpe := "HEADER_MISSING_ANNOTATION_SPEC", line := none }] := by
    decide +kernel
  rw [hE] at hnew
  rcases (reader_strict_first_error exC exK exR exLines none).1 _ _ hnew with h | ⟨rT, hT, _⟩
  · exact h
  · have : errOf (Reader.init exC exK exR exLines (some .strict) none) ≠ none := by decide +kernel
    rw [hT] at this
    exact absurd rfl this

/-- whole file, failure while reading: `exClean` has a clean header and a short second record.
    The Silent run reads both records and collects `RECORD_MISMATCH_NUMBER_OF_COLUMNS` at line 5
    (computed with `C17.compositional`); so, by `reader_strict_first_error`, the Strict run
    constructs its reader and then raises exactly that error while reading — an exception of the
    kind `C16.kinds_schemeless` allows. -/
example : ∃ rT, Reader.init exC exK exR2 exClean (some .strict) none = .ok rT ∧
    (rT.readAll exC exK).2.1 = some (.format "RECORD_MISMATCH_NUMBER_OF_COLUMNS" (some 5)) := by
  have hinit := reader_silent_init exC exK exR2 exClean none
  obtain ⟨hsch, hE, hsort⟩ : (silentReader exK exR2 exClean none).scheme =
        some (noRestrictionsScheme ["Chromosome", "Start_Position", "End_Position"]) ∧
      (silentReader exK exR2 exClean none).errors = [] ∧
      (C16.declaredOrder exK (silentReader exK exR2 exClean none)).sortable = false := by decide +kernel
  obtain ⟨recs, r', hread, _⟩ := C16.nonstrict_unsorted_total (C := exC) (by intro g h; cases h)
    (by intro s h; cases h) hinit (by decide) hsort
  have hcomp := C17.compositional hinit hread
  rw [← (C17.init_state hinit).2.2.2.1, hsch, hE] at hcomp
  have hD : dataLines exK exClean = ["chr1\t10\t20".toList, "chr2\t5".toList] := by decide +kernel
  have hk : headerLen exK exClean = 2 := by decide +kernel
  have hnd := noRestrictionsScheme_names_nodup ["Chromosome", "Start_Position", "End_Position"]
  have hm : (silentReader exK exR2 exClean none).mode = .silent := rfl
  simp only [hD, hk, hm, List.nil_append, List.zipIdx_cons, List.zipIdx_nil, List.flatMap_cons,
    List.flatMap_nil, List.append_nil, recordErrors_eval exC hnd (m := .silent) (by decide)] at hcomp
  have hval : r'.errors = [{ tpe := "RECORD_MISMATCH_NUMBER_OF_COLUMNS", line := some 5, origin := some 5 }] := by
    rw [hcomp]; decide +kernel
  have hS : ((silentReader exK exR2 exClean none).readAll exC exK).2.2.errors =
      { tpe := "RECORD_MISMATCH_NUMBER_OF_COLUMNS", line := some 5, origin := some 5 } :: [] := by
    rw [hread]; exact hval
  rcases (reader_strict_first_error exC exK exR2 exClean none).1 _ _ hS with h | ⟨rT, hT, hres, _⟩
  · have : errOf (Reader.init exC exK exR2 exClean (some .strict) none) = none := by decide +kernel
    rw [h] at this
    cases this
  · exact ⟨rT, hT, hres⟩

end examples

end C03
