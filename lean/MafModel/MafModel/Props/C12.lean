/-
  C12 — allele-aware overlap (`LocatableByAlleleOverlapIterator`; model: second half of
  `MafModel/Model/Overlap.lean`: `AlleleRel.test`, `shouldAdd`, `partitionFirst`, `alleleGroups`,
  `alleleAll`).

  For every `al : AlOps κ` (how reference / alternate alleles are read off a record),
  `rel : AlleleRel` and positional group `first :: others`:

  a. the first slots of the emitted groups (`subgroups`) partition `first`, order preserved; every
     record (every *occurrence*, via tagging with positions) of `first` sits in exactly one;
  b. a record joins the FIRST subgroup that accepts it, else opens a new one at the end;
  c. in an emitted group `sub :: outs`, `outs` is `others` filtered slot-wise by `shouldAdd al rel sub`;
  d. `AlleleRel.test` meets its documentation, also for empty lists and repeated alleles;
  e. `alleleAll` emits the groups of exactly those positional groups that have a non-empty first
     slot, in order (the skipped ones would have contributed nothing).

  `first ≠ []` is only needed where something has to exist (`alleleGroups_ne_nil`); everything else
  holds for every `first`.
-/
import MafModel.Lemmas.AlleleLemmas

open Py Model

namespace C12

variable {κ : Type} (al : AlOps κ) (rel : AlleleRel)

def firstSlots (gs : List (List (List κ))) : List (List κ) := gs.map (fun g => g.headD [])

/-- the first slots of the groups emitted for the positional group `first :: others` -/
abbrev subgroups (first : List κ) (others : List (List κ)) : List (List κ) :=
  firstSlots (alleleGroups al rel (first :: others))

theorem subgroups_eq (first : List κ) (others : List (List κ)) :
    subgroups al rel first others = partitionFirst al rel first [] := by
  simp [subgroups, firstSlots, alleleGroups, Function.comp_def]

/-! ## (a) the subgroups partition `first` -/

theorem first_partition (first : List κ) (others : List (List κ)) :
    (subgroups al rel first others).flatten.Perm first ∧
    (∀ s ∈ subgroups al rel first others, s ≠ []) ∧
    (∀ s ∈ subgroups al rel first others, s.Sublist first) := by
  rw [subgroups_eq]
  exact ⟨by simpa using partitionFirst_flatten_perm al rel first [],
    partitionFirst_ne_nil al rel first (by simp),
    by simpa using partitionFirst_sublist al rel first (pre := []) (acc := []) (by simp)⟩

/-- a. counting form: every record occurs in the subgroups as often as in `first` -/
theorem first_partition_count [BEq κ] [LawfulBEq κ] (first : List κ) (others : List (List κ))
    (x : κ) : ((subgroups al rel first others).map (List.count x)).sum = first.count x := by
  rw [← List.count_flatten]
  exact (first_partition al rel first others).1.count_eq x

theorem unique_index {α : Type} {L : List (List α)}
    (h : L.Pairwise (fun s t => ∀ a ∈ s, a ∉ t)) {x : α} {j k : Nat} (hj : j < L.length)
    (hk : k < L.length) (hxj : x ∈ L[j]) (hxk : x ∈ L[k]) : k = j := by
  rw [List.pairwise_iff_getElem] at h
  rcases Nat.lt_trichotomy j k with hlt | heq | hgt
  · exact absurd hxk (h j k hj hk hlt x hxj)
  · exact heq.symm
  · exact absurd hxj (h k j hk hj hgt x hxk)

/-- a. when the records of `first` are distinct, the subgroups are pairwise disjoint and every
    record of `first` lies in exactly one subgroup -/
theorem exactly_one (first : List κ) (others : List (List κ)) (hnd : first.Nodup) :
    (subgroups al rel first others).Pairwise (fun s t => ∀ a ∈ s, a ∉ t) ∧
    ∀ x ∈ first, ∃ j, ∃ hj : j < (subgroups al rel first others).length,
      x ∈ (subgroups al rel first others)[j] ∧
      ∀ k (hk : k < (subgroups al rel first others).length),
        x ∈ (subgroups al rel first others)[k] → k = j := by
  have hp := (first_partition al rel first others).1
  have hd := (List.pairwise_flatten.1 (hp.nodup_iff.2 hnd)).2.imp
    fun h a ha hat => h a ha a hat rfl
  refine ⟨hd, ?_⟩
  intro x hx
  obtain ⟨s, hs, hxs⟩ := List.mem_flatten.1 (hp.mem_iff.2 hx)
  obtain ⟨j, hj, rfl⟩ := List.getElem_of_mem hs
  exact ⟨j, hj, hxs, fun k hk hxk => unique_index hd hj hk hxs hxk⟩

/-- a. occurrence-precise form, duplicates allowed: tag every record of `first` with its position
    (`first.zipIdx`); the partition of the tagged records (which reads the alleles through the tag)
    projects onto the subgroups, and every occurrence `(first[p], p)` lies in exactly one of its
    subgroups -/
theorem exactly_one_occ (first : List κ) (others : List (List κ)) :
    (partitionFirst (al.comap Prod.fst) rel first.zipIdx []).map (List.map Prod.fst)
      = subgroups al rel first others ∧
    ∀ p (hp : p < first.length), ∃ j,
      ∃ hj : j < (partitionFirst (al.comap Prod.fst) rel first.zipIdx []).length,
        (first[p], p) ∈ (partitionFirst (al.comap Prod.fst) rel first.zipIdx [])[j] ∧
        ∀ k (hk : k < (partitionFirst (al.comap Prod.fst) rel first.zipIdx []).length),
          (first[p], p) ∈ (partitionFirst (al.comap Prod.fst) rel first.zipIdx [])[k] → k = j := by
  constructor
  · have := partitionFirst_map al rel (Prod.fst : κ × Nat → κ) first.zipIdx []
    rw [List.zipIdx_map_fst] at this
    rw [subgroups_eq, ← this]; rfl
  · intro p hp
    have hnd : (first.zipIdx).Nodup := by
      have h1 : ((first.zipIdx).map Prod.snd).Nodup := by
        rw [List.zipIdx_map_snd]; exact List.nodup_range' 1
      rw [List.nodup_iff_pairwise_ne] at h1 ⊢
      exact List.Pairwise.of_map Prod.snd (fun a b hab he => hab (by rw [he])) h1
    have hmem : (first[p], p) ∈ first.zipIdx := by
      rw [List.mem_zipIdx_iff_getElem?]; simp [hp]
    have h := (exactly_one (al.comap Prod.fst) rel first.zipIdx [] hnd).2 _ hmem
    rw [subgroups_eq] at h
    exact h

/-! ## (b) why a record is where it is -/

/-- b. in every subgroup, each later member (position `i > 0`) passed the test against the members
    before it -/
theorem later_member_matches_earlier (first : List κ) (others : List (List κ)) :
    ∀ s ∈ subgroups al rel first others, ∀ i (h : i < s.length), 0 < i →
      shouldAdd al rel (s.take i) s[i] = true := by
  rw [subgroups_eq]
  intro s hs
  exact partitionFirst_chained al rel first (by simp) s hs

/-- b. spelled out: some earlier member of the subgroup has the same reference allele and related
    alternate alleles -/
theorem later_member_matches_some_earlier (first : List κ) (others : List (List κ)) :
    ∀ s ∈ subgroups al rel first others, ∀ i (h : i < s.length), 0 < i →
      ∃ p, ∃ hp : p < i, al.ref (s[p]'(by omega)) = al.ref s[i] ∧
        rel.test (al.alts (s[p]'(by omega))) (al.alts s[i]) = true := by
  intro s hs i h hi
  have := later_member_matches_earlier al rel first others s hs i h hi
  rw [shouldAdd_iff] at this
  obtain ⟨it, hit, h1, h2⟩ := this
  obtain ⟨p, hp, rfl⟩ := List.getElem_of_mem hit
  have hp' : p < i := by rw [List.length_take] at hp; omega
  rw [List.getElem_take] at h1 h2
  exact ⟨p, hp', h1, h2⟩

/-- b. the first member `x₀` of the `j`-th subgroup opened it: when it arrived — after the records
    `pre` of `first` — there were exactly `j` subgroups, `x₀` failed the test against every one of
    them as it stood then, and those are the beginnings of the final subgroups `0 … j-1` -/
theorem opens_new_group (first : List κ) (others : List (List κ)) (j : Nat)
    (hj : j < (subgroups al rel first others).length) :
    ∃ pre x₀ post, first = pre ++ x₀ :: post ∧
      ((subgroups al rel first others)[j]).head? = some x₀ ∧
      (partitionFirst al rel pre []).length = j ∧
      (∀ t ∈ partitionFirst al rel pre [], shouldAdd al rel t x₀ = false) ∧
      (∀ (k : Nat) (t : List κ), (partitionFirst al rel pre [])[k]? = some t →
        ∃ t', (subgroups al rel first others)[k]? = some t' ∧ t <+: t') := by
  have hget : (partitionFirst al rel first [])[j]? = some ((subgroups al rel first others)[j]) := by
    rw [← subgroups_eq al rel first others]; exact List.getElem?_eq_getElem hj
  obtain ⟨pre, x₀, post, rfl, hh, hl, hf⟩ :=
    partitionFirst_opens al rel first [] (Nat.zero_le j) hget
  refine ⟨pre, x₀, post, rfl, hh, hl, hf, ?_⟩
  intro k t hk
  rw [subgroups_eq, partitionFirst_append]
  exact partitionFirst_getElem?_prefix al rel _ _ hk

/-- b. inductive characterisation of the partition: when, after the records `pre`, one more record
    `x` arrives, either it joins the FIRST subgroup accepting it (it failed against all earlier
    ones; all other subgroups are untouched), or it fails against all and opens a new last one -/
theorem arrival (pre : List κ) (x : κ) :
    (∃ l₁ b l₂, partitionFirst al rel pre [] = l₁ ++ b :: l₂ ∧
        (∀ a ∈ l₁, shouldAdd al rel a x = false) ∧ shouldAdd al rel b x = true ∧
        partitionFirst al rel (pre ++ [x]) [] = l₁ ++ (b ++ [x]) :: l₂) ∨
    ((∀ a ∈ partitionFirst al rel pre [], shouldAdd al rel a x = false) ∧
        partitionFirst al rel (pre ++ [x]) [] = partitionFirst al rel pre [] ++ [[x]]) := by
  rw [partitionFirst_snoc]
  exact place_cases al rel _ x

/-- b. the partition of nothing is empty (base case of `arrival`) -/
theorem arrival_nil : partitionFirst al rel ([] : List κ) [] = [] := partitionFirst_nil al rel []

/-! ## (c) the other inputs -/

/-- c. for every emitted group `sub :: outs`: from every other input exactly the records of the
    positional group that pass the test against some member of `sub`, in order -/
theorem others_exact (first : List κ) (others : List (List κ)) {sub : List κ}
    {outs : List (List κ)} (h : sub :: outs ∈ alleleGroups al rel (first :: others)) :
    outs = others.map (fun o => o.filter (shouldAdd al rel sub)) := by
  simp only [alleleGroups, List.mem_map] at h
  obtain ⟨sub', -, heq⟩ := h
  cases heq
  rfl

/-- c. position-wise: the `j`-th emitted group is the `j`-th subgroup with the filtered others -/
theorem alleleGroups_getElem (first : List κ) (others : List (List κ)) (j : Nat)
    (hj : j < (alleleGroups al rel (first :: others)).length) :
    (alleleGroups al rel (first :: others))[j]
      = (partitionFirst al rel first [])[j]'(by simpa [alleleGroups] using hj)
        :: others.map (fun o => o.filter
            (shouldAdd al rel ((partitionFirst al rel first [])[j]'(by simpa [alleleGroups] using hj)))) := by
  simp [alleleGroups]

/-- c. slot-wise: nothing that fails is returned, nothing that passes is omitted, order preserved -/
theorem mem_other_slot_iff (first : List κ) (others : List (List κ)) {sub : List κ}
    {outs : List (List κ)} (h : sub :: outs ∈ alleleGroups al rel (first :: others))
    (i : Nat) (hi : i < others.length) :
    ∃ hi' : i < outs.length,
      outs[i] = others[i].filter (shouldAdd al rel sub) ∧ outs[i].Sublist others[i] ∧
      ∀ y, y ∈ outs[i] ↔ y ∈ others[i] ∧
        ∃ it ∈ sub, al.ref it = al.ref y ∧ rel.test (al.alts it) (al.alts y) = true := by
  have := others_exact al rel first others h
  subst this
  refine ⟨by simpa using hi, by simp, by simp, ?_⟩
  intro y
  simp only [List.getElem_map, List.mem_filter, shouldAdd_iff]

/-! ## (d) the allele relations -/

/-- d. `AlleleRel.test` meets its documentation -/
theorem allele_rel_spec (base other : List Text) :
    (AlleleRel.test .equality base other = true ↔ base = other) ∧
    (AlleleRel.test .intersects base other = true ↔
      (∃ a, a ∈ base ∧ a ∈ other) ∨ base = other) ∧
    (AlleleRel.test .subset base other = true ↔ ∀ a ∈ other, a ∈ base) :=
  ⟨AlleleRel.test_equality base other, AlleleRel.test_intersects base other,
    AlleleRel.test_subset base other⟩

/-- d. so two empty allele lists intersect, and nothing else intersects an empty list -/
theorem intersects_nil (other : List Text) :
    AlleleRel.test .intersects [] other = true ↔ other = [] := by
  rw [AlleleRel.test_intersects]; simp [eq_comm]

/-- d. the relations `Subset` and `Intersects` are set relations on the lists: an allele that a list repeats counts
    once (a homozygous `T/T` call listed as `[T, T]` is contained in `[T]`), whatever the lengths of the lists -/
theorem subset_repeats (base other : List Text) :
    AlleleRel.test .subset base (other ++ other) = AlleleRel.test .subset base other := by
  rw [Bool.eq_iff_iff, AlleleRel.test_subset, AlleleRel.test_subset]
  constructor
  · intro h a ha; exact h a (List.mem_append_left _ ha)
  · intro h a ha; rcases List.mem_append.1 ha with h1 | h1 <;> exact h a h1

theorem subset_longer_list (t : Text) : AlleleRel.test .subset [t] [t, t] = true := by
  rw [AlleleRel.test_subset]; intro a ha; simp at ha ⊢; exact ha

/-! ## (e) all positional groups -/

def FirstNonempty (g : List (List κ)) : Prop := ∃ f others, g = f :: others ∧ f ≠ []

instance (g : List (List κ)) : Decidable (FirstNonempty g) :=
  match g with
  | [] => isFalse (by rintro ⟨f, o, h, -⟩; cases h)
  | [] :: _ => isFalse (by rintro ⟨f, o, h, hne⟩; cases h; exact hne rfl)
  | (x :: f) :: o => isTrue ⟨x :: f, o, rfl, by simp⟩

/-- e. `alleleAll` is `alleleGroups` over exactly the groups whose first slot is non-empty, in
    order -/
theorem alleleAll_eq (groups : List (List (List κ))) :
    alleleAll al rel groups
      = (groups.filter (fun g => decide (FirstNonempty g))).flatMap (alleleGroups al rel) := by
  unfold alleleAll
  congr 1
  apply List.filter_congr
  intro g _
  rcases g with _ | ⟨_ | _, _⟩ <;> simp [FirstNonempty]

theorem alleleAll_nil : alleleAll al rel ([] : List (List (List κ))) = [] := rfl

/-- e. a positional group with non-empty first slot contributes something, so exactly the groups
    without one leave no trace in the output -/
theorem alleleGroups_ne_nil (first : List κ) (others : List (List κ)) (hne : first ≠ []) :
    alleleGroups al rel (first :: others) ≠ [] := by
  intro h
  have hp := (first_partition al rel first others).1
  rw [subgroups, h] at hp
  exact hne (by simpa [firstSlots] using hp.symm)

/-- e. a skipped group would have contributed nothing anyway (`partitionFirst` of an empty first
    slot is empty): the filter is redundant -/
theorem alleleAll_eq_flatMap (groups : List (List (List κ))) :
    alleleAll al rel groups = groups.flatMap (alleleGroups al rel) := by
  induction groups with
  | nil => rfl
  | cons g groups ih =>
    rw [List.flatMap_cons, ← ih]
    -- no slot, empty first slot (`partitionFirst al rel [] [] = []`), non-empty first slot
    rcases g with _ | ⟨_ | _, _⟩ <;> rfl

theorem emitted_length (g : List (List κ)) : ∀ grp ∈ alleleGroups al rel g, grp.length = g.length := by
  cases g <;> simp [alleleGroups]

/-! ## non-vacuity -/

section examples

/-- records `(id, reference allele, alternate alleles)` -/
private abbrev Rec := Nat × Text × List Text
private def exAl : AlOps Rec := { ref := fun r => r.2.1, alts := fun r => r.2.2 }
private def r1 : Rec := (1, "A".toList, ["T".toList])
private def r2 : Rec := (2, "A".toList, ["T".toList, "G".toList])
private def r3 : Rec := (3, "A".toList, ["C".toList])
private def r4 : Rec := (4, "G".toList, ["T".toList])
private def r5 : Rec := (5, "A".toList, ["G".toList])
private def o6 : Rec := (6, "A".toList, ["T".toList])
private def o7 : Rec := (7, "A".toList, ["C".toList])
private def o8 : Rec := (8, "C".toList, ["T".toList])

/-- `r5` joins the first subgroup through `r2` (not `r1`); `r3`, `r4` open new subgroups -/
example : alleleGroups exAl .intersects [[r1, r2, r3, r4, r5], [o6, o7, o8]] =
    [[[r1, r2, r5], [o6]], [[r3], [o7]], [[r4], []]] := by rfl

example : subgroups exAl .intersects [r1, r2, r3, r4, r5] [[o6, o7, o8]]
    = [[r1, r2, r5], [r3], [r4]] := by decide

example : ([[r1, r2, r5], [r3], [r4]] : List (List Rec)).flatten.Perm [r1, r2, r3, r4, r5] ∧
    (∀ s ∈ ([[r1, r2, r5], [r3], [r4]] : List (List Rec)), s.Sublist [r1, r2, r3, r4, r5]) := by
  have h := first_partition exAl .intersects [r1, r2, r3, r4, r5] [[o6, o7, o8]]
  have e : subgroups exAl .intersects [r1, r2, r3, r4, r5] [[o6, o7, o8]]
      = [[r1, r2, r5], [r3], [r4]] := by decide
  rw [e] at h
  exact ⟨h.1, h.2.2⟩

/-- (a) `exactly_one` applies: the records are distinct -/
example : ([r1, r2, r3, r4, r5] : List Rec).Nodup := by decide

/-- (b) `r5` (position 2 of the first subgroup) passes against `[r1, r2]` but not against `[r1]` -/
example : shouldAdd exAl .intersects [r1, r2] r5 = true ∧ shouldAdd exAl .intersects [r1] r5 = false := by
  decide

/-- (b) `opens_new_group` for `j = 1`: `r3` arrives after `pre = [r1, r2]`, finds the single
    subgroup `[r1, r2]` and fails against it -/
example : partitionFirst exAl .intersects [r1, r2] [] = [[r1, r2]] ∧
    shouldAdd exAl .intersects [r1, r2] r3 = false := by decide

example : ([o6] : List Rec) = [o6, o7, o8].filter (shouldAdd exAl .intersects [r1, r2, r5]) := by
  decide
example : [[o6]] = [[o6, o7, o8]].map (fun o => o.filter (shouldAdd exAl .intersects [r1, r2, r5])) :=
  others_exact exAl .intersects [r1, r2, r3, r4, r5] [[o6, o7, o8]] (sub := [r1, r2, r5]) (by decide)

/-- (d) the three relations differ -/
example : AlleleRel.test .intersects ["T".toList, "G".toList] ["G".toList, "C".toList] = true ∧
    AlleleRel.test .subset ["T".toList, "G".toList] ["G".toList, "C".toList] = false ∧
    AlleleRel.test .subset ["T".toList, "G".toList] ["G".toList] = true ∧
    AlleleRel.test .equality ["T".toList, "G".toList] ["G".toList] = false ∧
    AlleleRel.test .intersects [] [] = true ∧ AlleleRel.test .intersects [] ["G".toList] = false := by
  decide

/-- with `subset` the partition is different: `r2` (alts T,G) is not covered by `r1` (alts T) -/
example : subgroups exAl .subset [r1, r2, r3, r4, r5] [] = [[r1], [r2, r5], [r3], [r4]] := by decide

/-- (e) the groups with empty first slot (second) or no slot (third) are skipped -/
example : alleleAll exAl .equality [[[r1], [o6, o7]], [[], [o8]], [], [[r3, o7], []]] =
    [[[r1], [o6]], [[r3, o7], []]] := by rfl

example : FirstNonempty [[r1], [o6, o7]] ∧ ¬ FirstNonempty [[], [o8]] ∧
    ¬ FirstNonempty ([] : List (List Rec)) := by decide

end examples

end C12
