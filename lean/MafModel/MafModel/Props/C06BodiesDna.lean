/-
  C06 — the two iterating `__validate__` hooks, translated from the source and interpreted, equal the hand model for
  every value: `NullableDnaString` (`for i, base in enumerate(self.value): if base not in ("A", "C", "G", "T"): return
  <message>`, after the `"-"` test) and `DnaString` (`msg = super().__validate__()`, then an empty text is refused too).

  The loop runs over a symbolic text, so evaluation alone cannot finish it.  One round is a four-level decision tree
  (`step_core`); the loop is an induction over the characters (`loop_eval_from`), during which the environment keeps
  the shape `E`; the statements around the loop are peeled with `Tree.eval_of_bind`: the run is, by evaluation, a
  `Tree.bind` of the part already understood, which is not evaluated again.  The lemmas about the inherited body are
  stated at fuel `n + k`: they serve both the direct call and the call through `super()`.
-/
import MafModel.Lemmas.BodiesRun
open Py PyIR Bodies Model

namespace C06BodiesDna

def selfObj (K : String) (s : Text) : Val := colObj K (.str s)
def E0 (K : String) (s : Text) : Env := [("self", selfObj K s)]
def E (K : String) (s : Text) (i : Nat) (c : Char) : Env := [("self", selfObj K s), ("i", .int i), ("base", .str [c])]

def loopBody : List Stmt :=
  [(.ifS (.cmp (.name "base") [(.notIn, (.tuple [(.const (.str "A".toList)), (.const (.str "C".toList)), (.const (.str "G".toList)), (.const (.str "T".toList))]))]) [(.ret .message)] [])]

def okChar (b : Char) : Bool := b = 'A' || b = 'C' || b = 'G' || b = 'T'

def MSG : Val := .str "<message>".toList

def stepRes (K : String) (s : Text) (j : Nat) (c' : Char) : Except PyErr (Env × Option Val) :=
  .ok (E K s j c', if okChar c' then Option.none else Option.some MSG)

theorem eq_iff_holds_textEq (H : Host) (a c : Char) : Query.holds H (Query.textEq [a] [c]) = true ↔ a = c := by
  simp [Query.holds]

set_option smartUnfolding false in
/-- one round of the loop body in the environment that holds both loop variables: the four tests `base == "A"` … -/
theorem step_core (fp : Text → Option Text) (K : String) (s : Text) (n j : Nat) (c' : Char) :
    Tree.eval (host fp) (execStmts Generated.Bodies.program (host fp) (n + 5) (E K s j c') loopBody) = stepRes K s j c' := by
  refine Tree.Forall.eval (P := (· = stepRes K s j c')) <|
    .ask_of rfl (fun h => ?_) fun h1 => .ask_of rfl (fun h => ?_) fun h2 =>
    .ask_of rfl (fun h => ?_) fun h3 => .ask_of rfl (fun h => ?_) fun h4 => .done_of rfl ?_
  iterate 4
    obtain rfl := (eq_iff_holds_textEq _ _ _).1 h
    exact .done_of rfl rfl
  have ne {a : Char} (h : Query.holds (host fp) (Query.textEq [a] [c']) = false) : a ≠ c' :=
    fun e => by rw [(eq_iff_holds_textEq _ _ _).2 e] at h; cases h
  have hk : okChar c' = false := by
    rw [okChar, decide_eq_false (ne (a := 'A') h1).symm, decide_eq_false (ne (a := 'C') h2).symm, decide_eq_false (ne (a := 'G') h3).symm,
      decide_eq_false (ne (a := 'T') h4).symm]; rfl
  rw [stepRes, hk]; rfl

/-- one round of `for i, base in enumerate(self.value): if base not in ("A", "C", "G", "T"): return <message>` -/
theorem step_eval (fp : Text → Option Text) (K : String) (s : Text) (n i j : Nat) (c c' : Char) :
    Tree.eval (host fp) (execStmts Generated.Bodies.program (host fp) (n + 5) (setVar (setVar (E K s i c) "i" (.int j)) "base" (.str [c'])) loopBody)
      = stepRes K s j c' :=
  step_core fp K s n j c'

def charVal (ch : Char) : Val := .str [ch]

/-- the loop function of `execStmt (.forS (some "i") "base" …)` at body fuel `n + 5` -/
def stepFn (fp : Text → Option Text) (n : Nat) : Env → Nat → Val → M (Env × Option Val) :=
  fun env i v => execStmts Generated.Bodies.program (host fp) (n + 5) (setVar (setVar env "i" (.int i)) "base" v) loopBody

/-- the whole loop from any environment in which binding the loop variables gives `E`: `None` falls out iff every
    character is a base.  Both the state before the loop (`E0`) and any state inside it (`E`) are such environments. -/
theorem loop_eval_from (fp : Text → Option Text) (K : String) (s : Text) (n : Nat) (cs : List Char) :
    ∀ (env : Env) (j : Nat), (∀ (j : Nat) c', setVar (setVar env "i" (.int j)) "base" (.str [c']) = E K s j c') → ∃ env',
      Tree.eval (host fp) (forLoop (stepFn fp n) env j (cs.map charVal))
        = .ok (env', if cs.all okChar then Option.none else Option.some MSG) := by
  induction cs with
  | nil => exact fun env _ _ => ⟨env, rfl⟩
  | cons c' cs ih =>
    intro env j henv
    have hs : Tree.eval (host fp) (stepFn fp n env j (charVal c')) = stepRes K s j c' := by
      rw [stepFn, charVal, henv]; exact step_core fp K s n j c'
    simp only [List.map_cons, forLoop, M.bind]
    erw [Tree.eval_bind, hs]
    cases hk : okChar c'
    · exact ⟨E K s j c', by simp only [stepRes, hk, List.all_cons, Bool.false_and]; rfl⟩
    · obtain ⟨env', he⟩ := ih (E K s j c') (j + 1) fun _ _ => rfl
      exact ⟨env', by simp only [stepRes, hk, List.all_cons, Bool.true_and]; exact he⟩

/-- the whole loop from a state in which the loop variables exist: `None` falls out iff every character is a base -/
theorem loop_eval (fp : Text → Option Text) (K : String) (s : Text) (n : Nat) (cs : List Char) :
    ∀ (i j : Nat) (c : Char), ∃ env',
      Tree.eval (host fp) (forLoop (stepFn fp n) (E K s i c) j (cs.map charVal))
        = .ok (env', if cs.all okChar then Option.none else Option.some MSG) :=
  fun i j c => loop_eval_from fp K s n cs (E K s i c) j fun _ _ => rfl

def forStmt : Stmt := Stmt.forS (some "i") "base" ((Expr.name "self").attr "value") loopBody

theorem for_eval (fp : Text → Option Text) (K : String) (s : Text) (n : Nat) : ∃ env',
    Tree.eval (host fp) (execStmt Generated.Bodies.program (host fp) (n + 6) (E0 K s) forStmt)
      = .ok (env', if s.all okChar then Option.none else Option.some MSG) := by
  conv => enter [1, env', 1, 2]; whnf
  exact loop_eval_from fp K s n s (E0 K s) 0 fun _ _ => rfl

def restStmts : List Stmt := [forStmt, Stmt.ret (Expr.const Val.none)]

/-- the loop and the final `return None`: `None` iff every character is a base -/
theorem rest_eval (fp : Text → Option Text) (K : String) (s : Text) (n : Nat) : ∃ env',
    Tree.eval (host fp) (execStmts Generated.Bodies.program (host fp) (n + 7) (E0 K s) restStmts)
      = .ok (env', some (if s.all okChar then Val.none else MSG)) := by
  obtain ⟨env1, h1⟩ := for_eval fp K s n
  refine ⟨env1, (Tree.eval_of_bind rfl h1).trans ?_⟩
  cases s.all okChar <;> rfl

theorem vDna_of_ne (s : Text) (hs : s ≠ ['-']) : vDna (.atom (.str s)) = !s.all okChar := by
  simp only [vDna, hs, if_false]
  rfl

/-- the whole method body on a text value -/
theorem body_eval (fp : Text → Option Text) (K : String) (s : Text) (n : Nat) : ∃ env',
    Tree.eval (host fp) (execStmts Generated.Bodies.program (host fp) (n + 8) (E0 K s) Generated.Bodies.NullableDnaString____validate__.body)
      = .ok (env', some (if vDna (.atom (.str s)) then MSG else Val.none)) := by
  by_cases hs : s = ['-']
  · subst hs
    exact ⟨_, rfl⟩
  · obtain ⟨env1, h1⟩ := rest_eval fp K s n
    refine ⟨env1, ?_⟩
    -- the head of the body is the test `self.value == "-"`; when it fails what is left is `restStmts`
    rw [vDna_of_ne s hs]
    refine (Tree.eval_ask_of (host fp) rfl).trans ?_
    split
    · next h => exact absurd (beq_iff_eq.1 h).symm hs
    · show Tree.eval (host fp) (execStmts Generated.Bodies.program (host fp) (n + 7) (E0 K s) restStmts) = _
      rw [h1]
      cases s.all okChar <;> rfl

/-- the call `self.__validate__()` is the body run in the environment that binds `self`, followed by the unpacking of the
    returned value -/
theorem run_eval (fp : Text → Option Text) (s : Text) : ∃ env',
    run Generated.Bodies.program (host fp) "NullableDnaString" "__validate__" [selfObj "NullableDnaString" s]
      = .ok (if vDna (.atom (.str s)) then MSG else Val.none, env') := by
  obtain ⟨env', h⟩ := body_eval fp "NullableDnaString" s 55
  exact ⟨env', (run_of_body rfl rfl h).trans rfl⟩

set_option smartUnfolding false in
/-- `NullableDnaString.__validate__` on a text value: the translated body (a loop over the characters) gives the model's
    verdict `vDna` -/
theorem validate_str_NullableDnaString (fp : Text → Option Text) (s : Text) :
    hookInvalid fp "NullableDnaString" (emb (.atom (.str s))) = modelInvalid "NullableDnaString" (.atom (.str s)) := by
  obtain ⟨env', h⟩ := run_eval fp s
  show hookInvalid fp "NullableDnaString" (.str s) = .ok (vDna (.atom (.str s)))
  rw [hookInvalid_eq_run rfl]
  refine (congrArg _ h).trans ?_
  cases vDna (.atom (.str s)) <;> rfl

set_option smartUnfolding false in
theorem validate_NullableDnaString (fp) : ∀ v : PyVal, hookInvalid fp "NullableDnaString" (emb v) = modelInvalid "NullableDnaString" v := by
  intro v
  cases v with
  | atom a => cases a with
    | str s => exact validate_str_NullableDnaString fp s
    | _ => rfl
  | list xs => rfl
  | tuple xs => rfl

/-! ### `DnaString`: `msg = super().__validate__()`, then an empty text is refused too -/

def superE : Expr := Expr.superCall "DnaString" "__validate__" []
def D : String := "DnaString"
def verdict (s : Text) : Val := if vDna (.atom (.str s)) then MSG else Val.none

/-- `super().__validate__()`: the inherited body at the fuel left inside the call, then two unpackings -/
theorem super_eval (fp : Text → Option Text) (s : Text) :
    Tree.eval (host fp) (evalExpr Generated.Bodies.program (host fp) 61 (E0 D s) superE) = .ok (verdict s) := by
  obtain ⟨env', h⟩ := body_eval fp D s 51
  exact (Tree.eval_of_bind rfl (Tree.eval_of_bind rfl h)).trans rfl

def E1 (s : Text) (v : Val) : Env := [("self", selfObj D s), ("msg", v)]

theorem assign_eval (fp : Text → Option Text) (s : Text) :
    Tree.eval (host fp) (execStmt Generated.Bodies.program (host fp) 62 (E0 D s) (Stmt.assign "msg" superE))
      = .ok (E1 s (verdict s), Option.none) :=
  (Tree.eval_of_bind rfl (super_eval fp s)).trans rfl

def EMPTYMSG : Val := .str "Found an empty string".toList

def tailStmts : List Stmt :=
  [(.ifS (.and [(.cmp (.name "msg") [(.is_, (.const .none))]), (.not (.attr (.name "self") "value"))]) [(.ret (.const (.str "Found an empty string".toList)))] [(.ret (.name "msg"))])]

def final (s : Text) : Val :=
  if vDna (.atom (.str s)) then MSG else if s.isEmpty then EMPTYMSG else Val.none

set_option smartUnfolding false in
theorem tail_eval (fp : Text → Option Text) (s : Text) :
    Tree.eval (host fp) (execStmts Generated.Bodies.program (host fp) 62 (E1 s (verdict s)) tailStmts)
      = .ok (E1 s (verdict s), some (final s)) := by
  cases hv : vDna (.atom (.str s))
  · simp only [verdict, final, hv, Bool.false_eq_true, if_false]
    refine Tree.Forall.eval (t := execStmts Generated.Bodies.program (host fp) 62 (E1 s Val.none) tailStmts)
      (P := (· = .ok (E1 s Val.none, some (if s.isEmpty then EMPTYMSG else Val.none)))) <|
      .ask_of rfl (fun h1 => .done_of rfl ?_) fun h1 => .done_of rfl ?_
    · rw [show s.isEmpty = true from h1]; rfl
    · rw [show s.isEmpty = false from h1]; rfl
  · simp only [verdict, final, hv, if_true]
    rfl

theorem body2_eval (fp : Text → Option Text) (s : Text) :
    Tree.eval (host fp) (execStmts Generated.Bodies.program (host fp) 63 (E0 D s) Generated.Bodies.DnaString____validate__.body)
      = .ok (E1 s (verdict s), some (final s)) :=
  (Tree.eval_of_bind (execStmts_cons _ _ 62 _ _ _) (assign_eval fp s)).trans (tail_eval fp s)

theorem run2_eval (fp : Text → Option Text) (s : Text) :
    run Generated.Bodies.program (host fp) "DnaString" "__validate__" [selfObj D s] = .ok (final s, E1 s (verdict s)) :=
  (run_of_body rfl rfl (body2_eval fp s)).trans rfl

set_option smartUnfolding false in
/-- `DnaString.__validate__` on a text value: the inherited loop, then an empty text is refused too -/
theorem validate_str_DnaString (fp : Text → Option Text) (s : Text) :
    hookInvalid fp "DnaString" (emb (.atom (.str s))) = modelInvalid "DnaString" (.atom (.str s)) := by
  show hookInvalid fp "DnaString" (.str s)
    = .ok (if vDna (.atom (.str s)) then true else !(PyVal.atom (.str s)).truthy)
  rw [hookInvalid_eq_run rfl]
  refine (congrArg _ (run2_eval fp s)).trans ?_
  cases hv : vDna (.atom (.str s))
  · cases s <;> (simp only [final, hv]; rfl)
  · simp only [final, hv]; rfl

set_option smartUnfolding false in
theorem validate_DnaString (fp) : ∀ v : PyVal, hookInvalid fp "DnaString" (emb v) = modelInvalid "DnaString" v := by
  intro v
  cases v with
  | atom a => cases a with
    | str s => exact validate_str_DnaString fp s
    | _ => rfl
  | list xs => rfl
  | tuple xs => rfl

end C06BodiesDna
