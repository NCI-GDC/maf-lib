/-
  C05 — Public and masked schemes never let germline information through.

  Field-level theorems over the generated definitions: in every public/masked
  layout (recognised from the definitions: a definition that redefines columns
  with `RequireNullValue`) the six germline columns have a type whose domain is
  exactly the null spelling, the operational model rejects (never exposes) any
  other text, and the protected-only VCF columns are absent from public layouts.
-/
import MafModel.Props.C01
open Model Py Spec

namespace C05

def germline6 : List String :=
  ["Match_Norm_Seq_Allele1", "Match_Norm_Seq_Allele2", "Match_Norm_Validation_Allele1",
   "Match_Norm_Validation_Allele2", "n_ref_count", "n_alt_count"]

def vcfOnly : List String := ["vcf_region", "vcf_info", "vcf_format", "vcf_tumor_gt", "vcf_normal_gt"]

/-- public/masked definitions, recognised from the generated definitions -/
def maskedDefs : List SchemeDef :=
  Generated.schemeDefs.filter (fun d => d.columns.any (fun c => c.2 == "RequireNullValue"))

def isMaskedType : Option ColType → Bool
  | some (.mixed "RequireNullValue" (.named b)) => Builtin.maskable.contains b
  | _ => false

/-- there are four public/masked layouts (tie to the generated definitions) -/
theorem four_masked_layouts : maskedDefs.map (·.annotation) =
    ["gdc-1.0.0-aliquot-merged-masked", "gdc-1.0.0-public", "gdc-1.0.1-public",
     "gdc-2.0.0-aliquot-merged-masked"] := by decide +kernel

/-- in each of them, each of the six germline columns is a `RequireNullValue`
    redefinition of a maskable type (so dropping an override line, a `filtered`
    entry swallowing one, or a changed base type breaks this obligation) -/
theorem germline_columns_masked :
    maskedDefs.all (fun d => match layoutOf Generated.schemeDefs d.annotation with
      | some L => germline6.all (fun c => isMaskedType (L.typeOf c))
      | none => false) = true := by decide +kernel

/-- the documented domain of a masked column is exactly its null spelling -/
theorem masked_domain (S : SCtx) (b : String) (hb : b ∈ Builtin.maskable) (t : Text) :
    inDomain S (.mixed "RequireNullValue" (.named b)) t = decide (t = []) := by
  rw [inDomain, Builtin.specBuild_masked S hb]
  split <;> simp [*]

/-- **Strict rejects / non-strict never exposes**: any text other than the null
    spelling placed in a masked column is rejected by the operational model —
    no column object is kept, whatever the text and whether or not it is valid
    for the underlying protected type. -/
theorem masked_never_exposed (C : Ctx) (b : String) (hb : b ∈ Builtin.maskable) (sp : ColSpec) (t : Text)
    (h : Builtin.expectedOf (.mixed "RequireNullValue" (.named b)) = some sp) (ht : t ≠ []) :
    sp.accept C false t = none := by
  apply C01.field_reject C _ sp t h
  rw [masked_domain _ b hb t]
  simp [ht]

/-- the only accepted text carries the null value -/
theorem masked_accepts_null_only (C : Ctx) (b : String) (hb : b ∈ Builtin.maskable) (sp : ColSpec) (t : Text) (v : PyVal)
    (h : Builtin.expectedOf (.mixed "RequireNullValue" (.named b)) = some sp)
    (hv : sp.accept C false t = some v) : t = [] ∧ v = .atom .none := by
  by_cases ht : t = []
  · rw [Builtin.accept_masked h, if_pos ht] at hv
    exact ⟨ht, (Option.some.inj hv).symm⟩
  · rw [masked_never_exposed C b hb sp t h ht] at hv
    cases hv

/-- field-level non-interference: two lines that differ only in non-null texts at
    masked positions give the same (empty) result at those positions, so nothing
    of the offending text survives in the record -/
theorem masked_noninterference (C : Ctx) (b : String) (hb : b ∈ Builtin.maskable) (sp : ColSpec) (t₁ t₂ : Text)
    (h : Builtin.expectedOf (.mixed "RequireNullValue" (.named b)) = some sp) (h1 : t₁ ≠ []) (h2 : t₂ ≠ []) :
    sp.accept C false t₁ = sp.accept C false t₂ := by
  rw [masked_never_exposed C b hb sp t₁ h h1, masked_never_exposed C b hb sp t₂ h h2]

/-- the protected-only VCF columns are absent from the public layouts -/
theorem vcf_absent_from_public :
    (Generated.schemeDefs.filter (fun d => d.annotation.endsWith "-public")).all (fun d =>
      match layoutOf Generated.schemeDefs d.annotation with
      | some L => vcfOnly.all (fun c => (L.typeOf c).isNone) && !L.isEmpty
      | none => false) = true := by decide +kernel

/-! non-vacuity -/
example : "NullableDnaString" ∈ Builtin.maskable := by decide
example : (Generated.schemeDefs.filter (fun d => d.annotation.endsWith "-public")).length = 2 := by decide +kernel
example : inDomain ⟨Generated.enums, ⟨fun _ => none⟩⟩ (.mixed "RequireNullValue" (.named "NullableZeroBasedIntegerColumn")) "17".toList = false := by decide
example : inDomain ⟨Generated.enums, ⟨fun _ => none⟩⟩ (.named "NullableZeroBasedIntegerColumn") "17".toList = true := by decide

end C05
