/-
  C19 (overlap part) — overlap iteration is incremental: it never pulls more than one record per
  input beyond the groups it has emitted.

  In the model (`MafModel/Model/Overlap.lean`) an input is a list; what the Python iterator has
  *pulled* from input `i` is what it consumed plus the one record it is peeking at (the head of the
  remaining input, when there is one).  `ovNext ops iters = some (g, rest)` is one `__next__`:
  `g` is the emitted group (one slot per input), `rest` the inputs afterwards.

  Everything here is purely structural: no hypothesis on `ops` (no lawfulness, no sortedness) is
  needed.
-/
import MafModel.Lemmas.OverlapLemmas

open Model

namespace C19Overlap

variable {κ : Type} {ops : OvOps κ}

/-! ### one `__next__` -/

theorem lengths {iters g rest : List (List κ)} (h : ovNext ops iters = some (g, rest)) :
    g.length = iters.length ∧ rest.length = iters.length :=
  ovNext_length h

/-- after `ovNext ops iters = some (g, rest)`, for every input `i`:
    `iters[i] = g[i] ++ rest[i]` — only a prefix was consumed, and it is exactly the emitted slot. -/
theorem slot_split {iters g rest : List (List κ)} (h : ovNext ops iters = some (g, rest))
    (i : Nat) (hi : i < iters.length) :
    iters[i] = g[i]'(by rw [(lengths h).1]; exact hi) ++ rest[i]'(by rw [(lengths h).2]; exact hi) :=
  (getElem_of_zipWith_append (ovNext_zip h) hi).2.2

/-- the number of records consumed from input `i` equals the number emitted from it -/
theorem consumed_eq_emitted {iters g rest : List (List κ)} (h : ovNext ops iters = some (g, rest))
    (i : Nat) (hi : i < iters.length) :
    iters[i].length - (rest[i]'(by rw [(lengths h).2]; exact hi)).length
      = (g[i]'(by rw [(lengths h).1]; exact hi)).length := by
  rw [slot_split h i hi, List.length_append]; omega

theorem rest_eq_drop {iters g rest : List (List κ)} (h : ovNext ops iters = some (g, rest))
    (i : Nat) (hi : i < iters.length) :
    rest[i]'(by rw [(lengths h).2]; exact hi)
      = iters[i].drop (g[i]'(by rw [(lengths h).1]; exact hi)).length := by
  rw [slot_split h i hi, List.drop_left]

theorem slot_eq_take {iters g rest : List (List κ)} (h : ovNext ops iters = some (g, rest))
    (i : Nat) (hi : i < iters.length) :
    g[i]'(by rw [(lengths h).1]; exact hi)
      = iters[i].take (g[i]'(by rw [(lengths h).1]; exact hi)).length := by
  rw [slot_split h i hi, List.take_left]

/-- records pulled from an input of which `rest` remains: the consumed ones plus the one being
    peeked at (`peek()` pulls the head of a non-exhausted input) -/
def pulled (input rest : List κ) : Nat :=
  (input.length - rest.length) + (if rest.isEmpty then 0 else 1)

/-- at most ONE record per input is pulled beyond what was emitted — exactly one when the input is
    not exhausted, none when it is -/
theorem pulled_le {iters g rest : List (List κ)} (h : ovNext ops iters = some (g, rest))
    (i : Nat) (hi : i < iters.length) :
    pulled iters[i] (rest[i]'(by rw [(lengths h).2]; exact hi))
        ≤ (g[i]'(by rw [(lengths h).1]; exact hi)).length + 1 ∧
    (pulled iters[i] (rest[i]'(by rw [(lengths h).2]; exact hi))
        = (g[i]'(by rw [(lengths h).1]; exact hi)).length + 1 ↔
      rest[i]'(by rw [(lengths h).2]; exact hi) ≠ []) := by
  unfold pulled
  rw [consumed_eq_emitted h i hi]
  cases hr : rest[i]'(by rw [(lengths h).2]; exact hi) <;> simp

/-- the look-ahead record of input `i` is the record right after the emitted slot -/
theorem lookahead {iters g rest : List (List κ)} (h : ovNext ops iters = some (g, rest))
    (i : Nat) (hi : i < iters.length) :
    (rest[i]'(by rw [(lengths h).2]; exact hi)).head?
      = iters[i][(g[i]'(by rw [(lengths h).1]; exact hi)).length]? := by
  rw [rest_eq_drop h i hi, List.head?_drop]

/-! ### any number of `__next__` calls -/

/-- `Run ops iters gs rest`: calling `__next__` `gs.length` times from inputs `iters` emits the
    groups `gs`, in this order, and leaves the inputs `rest` -/
inductive Run (ops : OvOps κ) : List (List κ) → List (List (List κ)) → List (List κ) → Prop
  | nil {iters : List (List κ)} : Run ops iters [] iters
  | cons {iters g mid : List (List κ)} {gs : List (List (List κ))} {rest : List (List κ)} :
      ovNext ops iters = some (g, mid) → Run ops mid gs rest → Run ops iters (g :: gs) rest

theorem Run.lengths {iters rest : List (List κ)} {gs : List (List (List κ))}
    (h : Run ops iters gs rest) :
    rest.length = iters.length ∧ ∀ g ∈ gs, g.length = iters.length := by
  induction h with
  | nil => exact ⟨rfl, by simp⟩
  | cons h1 _ ih =>
    have hl := C19Overlap.lengths h1
    refine ⟨by rw [ih.1, hl.2], ?_⟩
    intro g hg
    rcases List.mem_cons.1 hg with rfl | hg
    · exact hl.1
    · rw [ih.2 g hg, hl.2]

/-- after any number of emitted groups, input `i` is the concatenation of its slots in the emitted
    groups followed by what remains: exactly the emitted records were consumed, in order, and the
    only further record pulled is the head of `rest[i]` -/
theorem run_split {iters rest : List (List κ)} {gs : List (List (List κ))}
    (h : Run ops iters gs rest) (i : Nat) (hi : i < iters.length) :
    iters[i] = (gs.map (fun g => g.getD i [])).flatten ++ rest[i]'(by rw [h.lengths.1]; exact hi) := by
  induction h with
  | nil => simp
  | @cons iters g mid gs rest h1 h2 ih =>
    have hl := lengths h1
    have hm : i < mid.length := by rw [hl.2]; exact hi
    have hg : i < g.length := by rw [hl.1]; exact hi
    rw [List.map_cons, List.flatten_cons, List.append_assoc, ← ih hm, slot_split h1 i hi,
      List.getD_eq_getElem?_getD, List.getElem?_eq_getElem hg, Option.getD_some]

/-- counting form: consumed = emitted, and pulled ≤ emitted + 1 -/
theorem run_pulled_le {iters rest : List (List κ)} {gs : List (List (List κ))}
    (h : Run ops iters gs rest) (i : Nat) (hi : i < iters.length) :
    iters[i].length - (rest[i]'(by rw [h.lengths.1]; exact hi)).length
        = ((gs.map (fun g => g.getD i [])).flatten).length ∧
    pulled iters[i] (rest[i]'(by rw [h.lengths.1]; exact hi))
        ≤ ((gs.map (fun g => g.getD i [])).flatten).length + 1 := by
  have hs := congrArg List.length (run_split h i hi)
  rw [List.length_append] at hs
  refine ⟨by omega, ?_⟩
  unfold pulled
  split <;> omega

/-- the groups listed by `ovAll` (whatever the fuel) are a run of `__next__` calls -/
theorem ovAll_run (fuel : Nat) (iters : List (List κ)) :
    ∃ rest, Run ops iters (ovAll ops fuel iters) rest := by
  fun_induction ovAll ops fuel iters with
  | case1 iters => exact ⟨iters, .nil⟩
  | case2 fuel iters hnone => exact ⟨iters, .nil⟩
  | case3 fuel iters g rest hsome hall => exact ⟨iters, .nil⟩
  | case4 fuel iters g mid hsome hall ih =>
    obtain ⟨rest, hr⟩ := ih
    exact ⟨rest, .cons hsome hr⟩

/-! ### non-vacuity -/

/-- keys `(class, start, stop)` ordered lexicographically -/
def exOps : OvOps (Nat × Int × Int) where
  lt a b := decide (a.1 < b.1) || (decide (a.1 = b.1) &&
    (decide (a.2.1 < b.2.1) || (decide (a.2.1 = b.2.1) && decide (a.2.2 < b.2.2))))
  same a b := decide (a.1 = b.1)
  start k := k.2.1
  stop k := k.2.2

def exIters : List (List (Nat × Int × Int)) :=
  [[(0, 1, 10), (0, 15, 15), (0, 30, 40)], [(0, 5, 25), (0, 50, 60)]]

def exG : List (List (Nat × Int × Int)) := [[(0, 1, 10), (0, 15, 15)], [(0, 5, 25)]]
def exRest : List (List (Nat × Int × Int)) := [[(0, 30, 40)], [(0, 50, 60)]]

/-- a concrete `__next__`: two records absorbed from the first input, one from the second -/
theorem ex_next : ovNext exOps exIters = some (exG, exRest) := by rfl

example : exIters[0] = exG[0] ++ exRest[0] := slot_split ex_next 0 (by decide)
example : exIters[1] = exG[1] ++ exRest[1] := slot_split ex_next 1 (by decide)
example : pulled exIters[0] exRest[0] = exG[0].length + 1 := by decide
example : exRest[0].head? = exIters[0][exG[0].length]? := lookahead ex_next 0 (by decide)

/-- a run of two `__next__` calls, the second exhausting the first input: nothing is pulled from
    it beyond what was emitted -/
example : Run exOps exIters [exG, [[(0, 30, 40)], []]] [[], [(0, 50, 60)]] :=
  .cons ex_next (.cons (by rfl) .nil)
example : pulled exIters[0] ([] : List (Nat × Int × Int)) = (exG[0] ++ [(0, 30, 40)]).length := by
  decide

end C19Overlap
